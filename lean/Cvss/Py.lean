/-
  Semantics of the Python fragments that `tools/gen_code.py` translates from /repo's SOURCE TEXT
  (`Cvss/Gen/Code*.lean`).  Imports only `Basic` and `Model/Float`.  Conventions of the translation:

  * a Python expression or statement list that may raise becomes a computation in `M = Except Exc`
    (`Exc` = the exception class: the library's own classes, KeyError, TypeError on `None` arithmetic, ValueError on
    unpacking, AssertionError, anything else);
  * `Decimal` values are exact rationals (justified by the robustness / exactness theorems of C19),
    `str` is `List Char`, a dict with string keys is an association list in insertion order;
  * an attribute that can hold `None` is an `Option`.
-/
import Cvss.Basic
import Cvss.Model.Float
namespace Cvss.Py
open Cvss

/-- `decimal` rounding modes that can appear as `rounding=` in `quantize` -/
inductive Rounding
  | ceiling | floor | halfUp | halfEven | halfDown | down | up
  deriving DecidableEq, Repr

/-- `x.quantize(Decimal("0.1"), rounding=mode)` on exact values, result in the same unit -/
def quantize1 : Rounding → Rat → Rat
  | .ceiling, x => roundUp1 x
  | .halfUp, x => roundHalfUp1 x
  | .floor, x => ((x * 10).floor : Rat) / 10
  | .down, x => if 0 ≤ x then ((x * 10).floor : Rat) / 10 else ((x * 10).ceil : Rat) / 10
  | .up, x => if 0 ≤ x then ((x * 10).ceil : Rat) / 10 else ((x * 10).floor : Rat) / 10
  | .halfDown, x =>
    if 0 ≤ x then ((x * 10 - 1 / 2).ceil : Rat) / 10 else -((((-x) * 10 - 1 / 2).ceil : Rat)) / 10
  | .halfEven, x =>
    let f := (x * 10).floor
    let d := x * 10 - f
    if d < 1 / 2 then (f : Rat) / 10
    else if d > 1 / 2 then ((f + 1 : Int) : Rat) / 10
    else if f % 2 = 0 then (f : Rat) / 10 else ((f + 1 : Int) : Rat) / 10

/-- the exception classes the translated fragments can raise; message texts are not modelled -/
inductive Exc
  | malformed | mandatory | rhMalformed | rhMismatch          -- the library's own hierarchy (per version)
  | keyError | typeError | valueError | indexError | assertionError | nameError | zeroDivision | other
  deriving DecidableEq, Repr, Inhabited

/-- the model's view of an exception: its class inside the CVSSError hierarchy, or "foreign" -/
def Exc.toErr : Exc → Err
  | .malformed => .malformed
  | .mandatory => .mandatory
  | .rhMalformed => .rhMalformed
  | .rhMismatch => .rhMismatch
  | _ => .foreign

/-- a Python computation that may raise -/
abbrev M := Except Exc

def raise {α : Type} (e : Exc) : M α := .error e

/-- `d[k]` on a dict literal or table: KeyError when absent -/
def getitem {β : Type} (k : Str) (d : List (Str × β)) : M β :=
  match lookup k d with
  | some v => .ok v
  | none => .error .keyError

/-- a value that must not be `None` where it is used (arithmetic, ordering, iteration): TypeError -/
def req {α : Type} : Option α → M α
  | some x => .ok x
  | none => .error .typeError

/-- `a, b = xs`: ValueError unless there are exactly two items -/
def unpack2 {α : Type} : List α → M (α × α)
  | [a, b] => .ok (a, b)
  | _ => .error .valueError

def unpack3 {α : Type} : List α → M (α × α × α)
  | [a, b, c] => .ok (a, b, c)
  | _ => .error .valueError

/-- `assert c` -/
def assert (c : Prop) [Decidable c] : M Unit := if c then .ok () else .error .assertionError

/-- `try: x  except cls: h` -/
def tryExcept {α : Type} (x : M α) (cls : Exc) (h : M α) : M α :=
  match x with
  | .error e => if e = cls then h else .error e
  | .ok v => .ok v

/-- reading a local variable that some path leaves unassigned: NameError (UnboundLocalError) -/
def bound {α : Type} : Option α → M α
  | some x => .ok x
  | none => .error .nameError

/-- `s[i]` on a string: IndexError past the end -/
def charAt (s : Str) (i : Nat) : M Str :=
  match s[i]? with
  | some c => .ok [c]
  | none => .error .indexError

/-- `int(s)` on the strings the library converts (runs of ASCII digits): ValueError otherwise -/
def int (s : Str) : M Int :=
  if s ≠ [] ∧ s.all (fun c => '0' ≤ c ∧ c ≤ '9') then
    .ok (Int.ofNat (s.foldl (fun n c => n * 10 + (c.toNat - 48)) 0))
  else .error .valueError

/-- `d[k]` where the key may be `None` (never a key of these tables) -/
def getitemO {β : Type} (k : Option Str) (d : List (Str × β)) : M β :=
  match k with
  | some k => getitem k d
  | none => .error .keyError

/-- `d[i]` on a dict with small non-negative integer keys -/
def getitemN (i : Int) (d : List (Nat × Nat)) : M Int :=
  if i < 0 then .error .keyError
  else match lookup i.toNat d with
    | some v => .ok (Int.ofNat v)
    | none => .error .keyError

/-- `d[i][j]` on a dict of dicts with small non-negative integer keys -/
def getitemNN (i j : Int) (d : List ((Nat × Nat) × Nat)) : M Int :=
  if i < 0 ∨ j < 0 then .error .keyError
  else match lookup (i.toNat, j.toNat) d with
    | some v => .ok (Int.ofNat v)
    | none => .error .keyError

/-! binary floats that may be NaN: `Option Rat`, `none` = nan; finite values are modelled exactly
    (C02 `roundHalfUp_epsilon_robust` shows the perturbation of real float arithmetic cannot change a score) -/

def fadd : Option Rat → Option Rat → Option Rat
  | some a, some b => some (a + b)
  | _, _ => none
def fsub : Option Rat → Option Rat → Option Rat
  | some a, some b => some (a - b)
  | _, _ => none
def fmul : Option Rat → Option Rat → Option Rat
  | some a, some b => some (a * b)
  | _, _ => none
/-- `a / b`: ZeroDivisionError for a zero divisor (checked before NaN propagates) -/
def fdiv : Option Rat → Option Rat → M (Option Rat)
  | _, some 0 => .error .zeroDivision
  | some a, some b => .ok (some (a / b))
  | _, _ => .ok none
def div (a b : Rat) : M Rat := if b = 0 then .error .zeroDivision else .ok (a / b)
/-- comparisons involving NaN are false -/
def flt : Option Rat → Option Rat → Bool
  | some a, some b => decide (a < b)
  | _, _ => false
def fle : Option Rat → Option Rat → Bool
  | some a, some b => decide (a ≤ b)
  | _, _ => false
def fgt (a b : Option Rat) : Bool := flt b a
def fge (a b : Option Rat) : Bool := fle b a
/-- builtin `max(a, b)` / `min(a, b)`: the first argument unless the second compares greater / smaller -/
def fmax (a b : Option Rat) : Option Rat := if fgt b a then b else a
def fmin (a b : Option Rat) : Option Rat := if flt b a then b else a
/-- `Decimal(x).quantize(...)` needs a finite `x` (InvalidOperation on NaN) -/
def finite : Option Rat → M Rat
  | some x => .ok x
  | none => .error .other

/-- `s.split(sep, 1)`: at most two pieces -/
def split1 (sep : Char) (s : Str) : List Str :=
  match splitFirst sep s with
  | some (a, b) => [a, b]
  | none => [s]

/-- `xs[i]` for a constant index: IndexError past the end -/
def listAt {α : Type} (xs : List α) (i : Nat) : M α :=
  match xs[i]? with
  | some x => .ok x
  | none => .error .indexError

/-- a Python `float` obtained from text (the literal grammar of `float()` and IEEE binary64 are modelled in
    `Cvss/Model/Float.lean`; these are the semantics of a BUILTIN, tied to CPython by C12's literal correspondence) -/
abbrev FVal := Cvss.Model.Float.FVal

/-- `float(text)`: ValueError unless the text is a float literal -/
def float (s : Str) : M FVal :=
  match Cvss.Model.Float.parseFloat s with
  | some v => .ok v
  | none => .error .valueError

/-- `float(score) == x` for a one-decimal score (`None == x` is False) -/
def scoreEq (score : Option Rat) (x : FVal) : Bool :=
  match score with
  | some q => Cvss.Model.Float.eqScore q x
  | none => false

/-- `str(float(score))` of a one-decimal score in [0, 10]: "7.5", "10.0"; `str(None)` -/
def strScore : Option Rat → Str
  | none => c!"None"
  | some q =>
    let t := (q * 10).floor.toNat
    natToStr (t / 10) ++ '.' :: natToStr (t % 10)

/-- `hash(x)`: the hash function itself is opaque (it depends on the interpreter and the hash seed); what the library
    decides is WHICH key is hashed -/
abbrev hashKey (x : Str) : Str := x

/-- `s.endswith(p)` -/
def endsWith (p s : Str) : Bool := p.reverse.isPrefixOf s.reverse

/-- `d.get(k, default)` -/
abbrev getD {β : Type} (k : Str) (d : List (Str × β)) (dflt : β) : β := (lookup k d).getD dflt

/-- `d.get(k)` / `d.get(k, None)` -/
abbrev get? {β : Type} (k : Str) (d : List (Str × β)) : Option β := lookup k d

/-- `k in d` -/
abbrev contains {β : Type} (k : Str) (d : List (Str × β)) : Bool := hasKey k d

/-- `d[k] = v` -/
abbrev setitem {β : Type} (k : Str) (v : β) (d : List (Str × β)) : List (Str × β) := insert k v d

/-- `"{0}:{1}".format(a, b)`-style templates: literal text and `{n}` fields -/
def fmtField (args : List Str) (digits : Str) : Str :=
  args.getD (digits.foldl (fun n c => n * 10 + (c.toNat - 48)) 0) []

def formatAux (args : List Str) : Str → Option Str → Str
  | [], _ => []
  | '{' :: cs, none => formatAux args cs (some [])
  | '}' :: cs, some ds => fmtField args ds ++ formatAux args cs none
  | c :: cs, some ds => formatAux args cs (some (ds ++ [c]))
  | c :: cs, none => c :: formatAux args cs none

def format (template : Str) (args : List Str) : Str := formatAux args template none

/-- `str(x)` / `"{0}".format(x)` of an attribute holding an `int` or `None` -/
def strOInt : Option Int → Str
  | none => c!"None"
  | some (Int.ofNat n) => natToStr n
  | some (Int.negSucc n) => '-' :: natToStr (n + 1)

/-- `s.upper()` on the strings the library upper-cases (ASCII value names) -/
abbrev upper (s : Str) : Str := Cvss.upper s

/-- a JSON value as `as_json()` produces it -/
inductive J
  | null
  | str (s : Str)
  | num (x : Rat)
  deriving DecidableEq, Repr

/-- `a < b` on `str` (code point order) -/
def strLt : Str → Str → Bool
  | [], [] => false
  | [], _ :: _ => true
  | _ :: _, [] => false
  | a :: as, b :: bs => if a.toNat < b.toNat then true else if b.toNat < a.toNat then false else strLt as bs

def insertSorted {β : Type} (kv : Str × β) : List (Str × β) → List (Str × β)
  | [] => [kv]
  | x :: xs => if strLt kv.1 x.1 then kv :: x :: xs else x :: insertSorted kv xs

/-- `OrderedDict(sorted(d.items()))` for distinct string keys (stable insertion sort by key) -/
def sortedItems {β : Type} (d : List (Str × β)) : List (Str × β) :=
  d.foldl (fun acc kv => insertSorted kv acc) []

/-- `str(n)` of a small non-negative integer -/
abbrev strNat (n : Nat) : Str := natToStr n

end Cvss.Py
