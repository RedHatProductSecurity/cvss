/-
  The specification's scores of a constructed object: the spec functions applied to the assignment
  its map stands for (what the driver prints, and what the version-independent statements speak of).
-/
import Cvss.Model.Any
import Cvss.Spec.V2
import Cvss.Spec.V3
import Cvss.Spec.V4
namespace Cvss.Spec
open Cvss Cvss.Model

def specScores : AnyObj → List (Option Rat)
  | .o2 o => Spec.V2.scores (assignment c!"ND" o.metrics)
  | .o3 o => Spec.V3.scores o.minor (assignment c!"X" o.orig)
  | .o4 o => [Spec.V4.score (assignment c!"X" o.orig)]

end Cvss.Spec
