/-
  Driver entry for the specification side ("Spec vs code" correspondence): the spec functions are
  applied to the assignment obtained from the model's parse of the string.
-/
import Cvss.Model.Any
import Cvss.Spec.V2
import Cvss.Spec.V3
import Cvss.Spec.V4
import Cvss.Spec.Scores
import Cvss.Spec.Grammar
import Cvss.Spec.Severity
import Cvss.Spec.RegexPatterns
import Cvss.Spec.SchemaTerms
import Cvss.Model.Json
namespace Cvss.Spec
open Cvss Cvss.Model

private def decodeStr (s : String) : Option Str :=
  if s = "e" then some []
  else (s.splitOn ",").mapM (fun t => t.toNat?.map Char.ofNat)

private def showScore? : Option Rat → String
  | none => "None"
  | some x => if x ≥ 0 ∧ (x * 10).den = 1 then String.ofList (showScore x) else s!"?{x.num}/{x.den}"

def handle : List String → String
  | ["score", v, s] =>
    let ver : Option Ver := if v = "2" then some .v2 else if v = "3" then some .v3 else if v = "4" then some .v4 else none
    match ver, decodeStr s with
    | some ver, some str =>
      match construct ver str with
      | .error e => "err\t" ++ e.name
      | .ok o => "ok\t" ++ " ".intercalate ((specScores o).map showScore?)
    | _, _ => "bad-op"
  | ["raw4", s] =>     -- the exact v4 value before clamping and rounding (for finding rounding ties; not an oracle)
    match decodeStr s with
    | some str =>
      match construct .v4 str with
      | .ok (.o4 o) =>
        match Spec.V4.rawScore (assignment c!"X" o.orig) with
        | some x => s!"ok\t{x.num}/{x.den}"
        | none => "none"
      | _ => "err"
    | none => "bad-op"
  | ["acc", v, s] =>
    let g : Option Grammar.G := if v = "2" then some Grammar.g2 else if v = "3" then some Grammar.g3 else if v = "4" then some Grammar.g4 else none
    match g, decodeStr s with
    | some g, some str =>
      match Grammar.classify g str with
      | .ok => "ok" | .malformed => "err\tMalformedError" | .mandatory => "err\tMandatoryError"
    | _, _ => "bad-op"
  | ["sev", v, t] =>
    if v = "2" then
      if t = "None" then String.ofList (Severity.rating2 none)
      else match t.toNat? with
        | some n => String.ofList (Severity.rating2 (some n))
        | none => "bad-op"
    else match t.toNat? with
      | some n => String.ofList (Severity.rating34 n)
      | none => "bad-op"
  | ["schema", v, so, mi, s] =>   -- failing schema locations of as_json(sort, minimal)
    let ver : Option Ver := if v = "2" then some .v2 else if v = "3" then some .v3 else if v = "4" then some .v4 else none
    match ver, decodeStr s with
    | some ver, some str =>
      match construct ver str with
      | .error e => "err\t" ++ e.name
      | .ok o =>
        let sch := match o with
          | .o2 _ => Schema.schema20
          | .o3 x => if x.minor = 0 then Schema.schema30 else Schema.schema31
          | .o4 _ => Schema.schema40
        match o.asJson (so = "1") (mi = "1") with
        | none => "KEYERROR"
        | some j => "ok\t" ++ ",".intercalate ((Schema.failures sch j).map String.ofList)
    | _, _ => "bad-op"
  | ["re", k, s] =>
    let p : Option Regex.Re := if k = "2" then some Regex.pattern20 else if k = "3.0" then some Regex.pattern30
      else if k = "3.1" then some Regex.pattern31 else if k = "4" then some Regex.pattern40 else none
    match p, decodeStr s with
    | some p, some str => if Regex.fullMatch p str then "1" else "0"
    | _, _ => "bad-op"
  | _ => "bad-op"

end Cvss.Spec
