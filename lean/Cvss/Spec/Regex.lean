/-
  Regular expressions as used by the `vectorString` patterns of FIRST's JSON schemas:
  declarative matching semantics and an executable derivative matcher (the latter is what
  `Schema.okConstraint` evaluates for a `pattern` constraint, what the C08 / C10 proofs evaluate on
  the tables of legal fields, and what the driver runs to cross-validate the transcribed patterns
  against Python's `re` on concrete strings).
-/
import Cvss.Basic
namespace Cvss.Spec.Regex
open Cvss

inductive Re
  | empty                      -- matches nothing
  | eps                        -- matches the empty string
  | chr (c : Char)
  | cls (cs : List Char)       -- character class `[...]`
  | any                        -- `.` (any character except newline)
  | seq (a b : Re)
  | alt (a b : Re)
  | star (a : Re)
  deriving Repr, DecidableEq, Inhabited

namespace Re
def opt (a : Re) : Re := .alt a .eps
def seqs : List Re → Re
  | [] => .eps
  | [a] => a
  | a :: rest => .seq a (seqs rest)
def alts : List Re → Re
  | [] => .empty
  | [a] => a
  | a :: rest => .alt a (alts rest)
def lit (s : Str) : Re := seqs (s.map .chr)
end Re

/-- declarative semantics: `Matches r s` ⇔ the whole of `s` is in the language of `r` -/
inductive Matches : Re → Str → Prop
  | eps : Matches .eps []
  | chr (c : Char) : Matches (.chr c) [c]
  | cls (cs : List Char) (c : Char) : c ∈ cs → Matches (.cls cs) [c]
  | any (c : Char) : c ≠ '\n' → Matches .any [c]
  | seq {a b : Re} {s t : Str} : Matches a s → Matches b t → Matches (.seq a b) (s ++ t)
  | altL {a b : Re} {s : Str} : Matches a s → Matches (.alt a b) s
  | altR {a b : Re} {s : Str} : Matches b s → Matches (.alt a b) s
  | starNil {a : Re} : Matches (.star a) []
  | starCons {a : Re} {s t : Str} : Matches a s → Matches (.star a) t → Matches (.star a) (s ++ t)

/-! executable matcher (Brzozowski derivatives with simplifying constructors) -/

def nullable : Re → Bool
  | .empty => false
  | .eps => true
  | .chr _ => false
  | .cls _ => false
  | .any => false
  | .seq a b => nullable a && nullable b
  | .alt a b => nullable a || nullable b
  | .star _ => true

def mkSeq : Re → Re → Re
  | .empty, _ => .empty
  | _, .empty => .empty
  | .eps, b => b
  | a, .eps => a
  | a, b => .seq a b

def mkAlt : Re → Re → Re
  | .empty, b => b
  | a, .empty => a
  | a, b => if a = b then a else .alt a b

def deriv (c : Char) : Re → Re
  | .empty => .empty
  | .eps => .empty
  | .chr d => if c = d then .eps else .empty
  | .cls cs => if c ∈ cs then .eps else .empty
  | .any => if c ≠ '\n' then .eps else .empty
  | .seq a b =>
    if nullable a then mkAlt (mkSeq (deriv c a) b) (deriv c b) else mkSeq (deriv c a) b
  | .alt a b => mkAlt (deriv c a) (deriv c b)
  | .star a => mkSeq (deriv c a) (.star a)

/-- whole-string match -/
def fullMatch (r : Re) (s : Str) : Bool := nullable (s.foldl (fun r c => deriv c r) r)

end Cvss.Spec.Regex
