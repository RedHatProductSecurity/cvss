/-
  Model of cvss/cvss4.py (class CVSS4) over the generated tables `Cvss.Gen.V4`.
  Binary floating point is modelled by exact rationals; `EPSILON` is kept (it is part of the code);
  see `Props/C02.lean` (`roundHalfUp_epsilon_robust`) for why the perturbation cannot change a result.
-/
import Cvss.Basic
import Cvss.Gen.V4
import Cvss.Model.Parse
namespace Cvss.Model.V4
open Cvss Cvss.Model

def tables : Tables where
  abbrs := keys Gen.V4.abbrs
  legal := Gen.V4.valueNames.map (fun (k, row) => (k, keys row))
  mandatory := Gen.V4.mandatory
  v4style := true

def X : Str := c!"X"
def pfx : Str := c!"CVSS:4.0/"

def r (n : Int) (d : Nat) : Rat := mkRat n d

def modifiedMetrics : List Str :=
  [c!"MAV", c!"MAC", c!"MAT", c!"MPR", c!"MUI", c!"MVC", c!"MVI", c!"MVA", c!"MSC", c!"MSI", c!"MSA"]

def defaultedMetrics : List Str :=
  [c!"S", c!"AU", c!"R", c!"V", c!"RE", c!"U", c!"CR", c!"IR", c!"AR", c!"E"]

/-- first loop of `add_missing_optional` (`none` ⇔ KeyError) -/
def fillModified : MMap → List Str → Option MMap
  | m, [] => some m
  | m, a :: rest =>
    let needs : Bool := match lookup a m with
      | some v => decide (v = X)
      | none => true
    if needs then
      match lookup (a.drop 1) m with
      | none => none
      | some b => fillModified (insert a b m) rest
    else fillModified m rest

/-- second loop of `add_missing_optional` -/
def fillDefaults : MMap → List Str → MMap
  | m, [] => m
  | m, a :: rest => if hasKey a m then fillDefaults m rest else fillDefaults (insert a X m) rest

/-- `m(metric)`; `none` is Python's `None` -/
def mEff (m : MMap) (metric : Str) : Option Str :=
  let selected := lookup metric m
  if metric = c!"E" ∧ selected = some X then some c!"A"
  else if metric = c!"CR" ∧ selected = some X then some c!"H"
  else if metric = c!"IR" ∧ selected = some X then some c!"H"
  else if metric = c!"AR" ∧ selected = some X then some c!"H"
  else
    match lookup ('M' :: metric) m with
    | some ms => if ms ≠ X then some ms else selected
    | none => selected

/-- the six digits of `macroVector()`; `none` ⇔ the string would contain "None" -/
def macroVector (m : MMap) : Option (List Nat) :=
  let is (k : Str) (v : Str) : Bool := mEff m k = some v
  let avN := is c!"AV" c!"N"; let prN := is c!"PR" c!"N"; let uiN := is c!"UI" c!"N"
  let avP := is c!"AV" c!"P"
  let eq1 : Nat :=
    if avN && prN && uiN then 0
    else if (avN || prN || uiN) && !(avN && prN && uiN) && !avP then 1
    else 2
  let eq2 : Nat := if is c!"AC" c!"L" && is c!"AT" c!"N" then 0 else 1
  let vcH := is c!"VC" c!"H"; let viH := is c!"VI" c!"H"; let vaH := is c!"VA" c!"H"
  let eq3 : Nat :=
    if vcH && viH then 0
    else if !(vcH && viH) && (vcH || viH || vaH) then 1
    else 2
  let sS := is c!"MSI" c!"S" || is c!"MSA" c!"S"
  let sH := is c!"SC" c!"H" || is c!"SI" c!"H" || is c!"SA" c!"H"
  let eq4 : Nat := if sS then 0 else if sH then 1 else 2
  let eq5 : Option Nat :=
    if is c!"E" c!"A" then some 0 else if is c!"E" c!"P" then some 1
    else if is c!"E" c!"U" then some 2 else none
  let eq6 : Nat :=
    if (is c!"CR" c!"H" && vcH) || (is c!"IR" c!"H" && viH) || (is c!"AR" c!"H" && vaH) then 0 else 1
  match eq5 with
  | none => none
  | some e5 => some [eq1, eq2, eq3, eq4, e5, eq6]

def mvKey (d : List Nat) : Str := d.flatMap natToStr

/-- the literal `*_levels` dicts of `compute_base_score`, in tenths -/
def levels : List (Str × List (Str × Rat)) :=
  [ (c!"AV", [(c!"N", 0), (c!"A", r 1 10), (c!"L", r 2 10), (c!"P", r 3 10)]),
    (c!"PR", [(c!"N", 0), (c!"L", r 1 10), (c!"H", r 2 10)]),
    (c!"UI", [(c!"N", 0), (c!"P", r 1 10), (c!"A", r 2 10)]),
    (c!"AC", [(c!"L", 0), (c!"H", r 1 10)]),
    (c!"AT", [(c!"N", 0), (c!"P", r 1 10)]),
    (c!"VC", [(c!"H", 0), (c!"L", r 1 10), (c!"N", r 2 10)]),
    (c!"VI", [(c!"H", 0), (c!"L", r 1 10), (c!"N", r 2 10)]),
    (c!"VA", [(c!"H", 0), (c!"L", r 1 10), (c!"N", r 2 10)]),
    (c!"SC", [(c!"H", r 1 10), (c!"L", r 2 10), (c!"N", r 3 10)]),
    (c!"SI", [(c!"S", 0), (c!"H", r 1 10), (c!"L", r 2 10), (c!"N", r 3 10)]),
    (c!"SA", [(c!"S", 0), (c!"H", r 1 10), (c!"L", r 2 10), (c!"N", r 3 10)]),
    (c!"CR", [(c!"H", 0), (c!"M", r 1 10), (c!"L", r 2 10)]),
    (c!"IR", [(c!"H", 0), (c!"M", r 1 10), (c!"L", r 2 10)]),
    (c!"AR", [(c!"H", 0), (c!"M", r 1 10), (c!"L", r 2 10)]) ]

/-- order of the 14 `severity_distance_*` computations -/
def distMetrics : List Str :=
  [c!"AV", c!"PR", c!"UI", c!"AC", c!"AT", c!"VC", c!"VI", c!"VA", c!"SC", c!"SI", c!"SA",
   c!"CR", c!"IR", c!"AR"]

/-- `X_levels[self.m(X)] - X_levels[self.extract_value_metric(X, max_vector)]`;
    the max vector is the structured list the translator extracted with the library's own
    `extract_value_metric` -/
def distance (m : MMap) (maxv : List (Str × Str)) (k : Str) : Option Rat := do
  let tbl ← lookup k levels
  let cur ← mEff m k
  let lc ← lookup cur tbl
  let mv ← lookup k maxv
  let lm ← lookup mv tbl
  pure (lc - lm)

def distances (m : MMap) (maxv : List (Str × Str)) : Option (List Rat) :=
  distMetrics.mapM (distance m maxv)

/-- the `for max_vector in max_vectors: … continue / break` loop; the variables keep the values of
    the last iteration when no max vector qualifies; an empty list leaves them unbound (NameError) -/
def search (m : MMap) : List (List (Str × Str)) → Option (List Rat) → Option (List Rat)
  | [], last => last
  | mv :: rest, _ =>
    match distances m mv with
    | none => none
    | some d => if d.any (· < 0) then search m rest (some d) else some d

/-- the five nested loops building `max_vectors` -/
def product (e1 e2 e36 e4 e5 : List (List (Str × Str))) : List (List (Str × Str)) :=
  e1.flatMap fun a => e2.flatMap fun b => e36.flatMap fun c => e4.flatMap fun d =>
    e5.map fun e => a ++ b ++ c ++ d ++ e

/-- Python `max(a, b)` where a missing table row is `nan` -/
def pyMaxNan : Option Rat → Option Rat → Option Rat
  | none, _ => none
  | some x, none => some x
  | some x, some y => some (if y > x then y else x)

def lookupScore (d : List Nat) : Option Rat := lookup (mvKey d) Gen.V4.lookupTable

/-- contribution of one equivalence class: (counted?, normalized severity);
    outer `none` ⇔ ZeroDivisionError -/
def contribution (value : Rat) (lower : Option Rat) (cur maxSev : Rat) : Option (Nat × Rat) :=
  match lower with
  | none => some (0, 0)                       -- value - nan = nan; `nan >= 0` is False
  | some l =>
    let avail := value - l
    if avail ≥ 0 then
      if maxSev = 0 then none else some (1, avail * (cur / maxSev))
    else some (0, 0)

/-- `final_rounding` -/
def finalRounding (x : Rat) : Rat := roundHalfUp1 (x + Gen.V4.epsilon)

/-- `compute_base_score`; `none` ⇔ an exception (KeyError, ValueError, NameError, ZeroDivisionError) -/
def baseScore (m : MMap) : Option Rat := do
  if [c!"VC", c!"VI", c!"VA", c!"SC", c!"SI", c!"SA"].all (fun k => mEff m k = some c!"N") then
    pure 0
  else
    let mv ← macroVector m
    let value ← lookupScore mv
    match mv with
    | [e1, e2, e3, e4, e5, e6] =>
      let s1 := lookupScore [e1 + 1, e2, e3, e4, e5, e6]
      let s2 := lookupScore [e1, e2 + 1, e3, e4, e5, e6]
      let s36 :=
        if e3 = 1 ∧ e6 = 1 then lookupScore [e1, e2, e3 + 1, e4, e5, e6]
        else if e3 = 0 ∧ e6 = 1 then lookupScore [e1, e2, e3 + 1, e4, e5, e6]
        else if e3 = 1 ∧ e6 = 0 then lookupScore [e1, e2, e3, e4, e5, e6 + 1]
        else if e3 = 0 ∧ e6 = 0 then
          pyMaxNan (lookupScore [e1, e2, e3, e4, e5, e6 + 1]) (lookupScore [e1, e2, e3 + 1, e4, e5, e6])
        else lookupScore [e1, e2, e3 + 1, e4, e5, e6 + 1]
      let s4 := lookupScore [e1, e2, e3, e4 + 1, e5, e6]
      let s5 := lookupScore [e1, e2, e3, e4, e5 + 1, e6]
      let m1 ← lookup (natToStr e1) Gen.V4.maxEq1
      let m2 ← lookup (natToStr e2) Gen.V4.maxEq2
      let m36 ← lookup (natToStr e3 ++ natToStr e6) Gen.V4.maxEq36
      let m4 ← lookup (natToStr e4) Gen.V4.maxEq4
      let m5 ← lookup (natToStr e5) Gen.V4.maxEq5
      let d ← search m (product m1 m2 m36 m4 m5) none
      match d with
      | [dAV, dPR, dUI, dAC, dAT, dVC, dVI, dVA, dSC, dSI, dSA, dCR, dIR, dAR] =>
        let c1 := dAV + dPR + dUI
        let c2 := dAC + dAT
        let c36 := dVC + dVI + dVA + dCR + dIR + dAR
        let c4 := dSC + dSI + dSA
        let step : Rat := r 1 10
        let ms1 ← lookup e1 Gen.V4.maxSeverityEq1
        let ms2 ← lookup e2 Gen.V4.maxSeverityEq2
        let ms36 ← lookup (e3, e6) Gen.V4.maxSeverityEq36
        let ms4 ← lookup e4 Gen.V4.maxSeverityEq4
        let k1 ← contribution value s1 c1 (ms1 * step)
        let k2 ← contribution value s2 c2 (ms2 * step)
        let k36 ← contribution value s36 c36 (ms36 * step)
        let k4 ← contribution value s4 c4 (ms4 * step)
        -- eq5: percent_to_next_eq5_severity = 0
        let k5 : Nat × Rat := match s5 with
          | none => (0, 0)
          | some l => if value - l ≥ 0 then (1, 0) else (0, 0)
        let n := k1.1 + k2.1 + k36.1 + k4.1 + k5.1
        let mean : Rat := if n = 0 then 0 else (k1.2 + k2.2 + k36.2 + k4.2 + k5.2) / n
        let v := value - mean
        let v := pyMax 0 v
        let v := pyMin 10 v
        pure (finalRounding v)
      | _ => none
    | _ => none

def sevOf (s : Rat) : Str :=
  if s = 0 then c!"None"
  else if s ≤ r 39 10 then c!"Low"
  else if s ≤ r 69 10 then c!"Medium"
  else if s ≤ r 89 10 then c!"High"
  else c!"Critical"

structure Obj where
  vector : Str
  orig : MMap
  metrics : MMap
  base : Rat
  severity : Str
  deriving Repr

def build (s : Str) (m : MMap) : Option Obj := do
  let m1 ← fillModified m modifiedMetrics
  let full := fillDefaults m1 defaultedMetrics
  let b ← baseScore full
  pure { vector := s, orig := m, metrics := full, base := b, severity := sevOf b }

/-- `parse_vector()` followed by `check_mandatory()` -/
def parse (s : Str) : Except Err MMap :=
  match parseWithPrefix tables [pfx] s with
  | .error e => .error e
  | .ok (_, m) =>
    match checkMandatory tables m with
    | .error e => .error e
    | .ok _ => .ok m

/-- `CVSS4(vector)` -/
def construct (s : Str) : Except Err Obj :=
  match parse s with
  | .error e => .error e
  | .ok m =>
    match build s m with
    | none => .error .foreign
    | some o => .ok o

def Obj.scores (o : Obj) : List (Option Rat) := [some o.base]
def Obj.severities (o : Obj) : List Str := [o.severity]

def cleanOf (orig : MMap) (outputPrefix : Bool) : Str :=
  (if outputPrefix then pfx else []) ++
  join '/' ((keys Gen.V4.abbrs).filterMap (fun k =>
    match lookup k orig with
    | some v => if v ≠ X then some (k ++ ':' :: v) else none
    | none => none))

def Obj.clean (o : Obj) (outputPrefix : Bool := true) : Str := cleanOf o.orig outputPrefix

def getDescription (m : MMap) (abbr : Str) : Option Str :=
  match lookup abbr Gen.V4.valueNames with
  | none => none
  | some row => lookup ((lookup abbr m).getD X) row

end Cvss.Model.V4
