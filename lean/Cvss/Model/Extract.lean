/-
  Model of cvss/parser.py: `re.findall(r"(?:CVSS:3\.\d/)?[A-Za-z:/]{26,}", text)` as a structurally
  recursive left-to-right scanner (leftmost match, greedy, with the one possible back-track: drop the
  optional prefix), followed by construction and de-duplication: an object equal to one already seen
  is dropped, the others are appended in order of first occurrence.
-/
import Cvss.Model.Any
namespace Cvss.Model.Extract
open Cvss Cvss.Model

/-- the character class `[A-Za-z:/]` -/
def inClass (c : Char) : Bool :=
  (65 ≤ c.toNat && c.toNat ≤ 90) || (97 ≤ c.toNat && c.toNat ≤ 122) || c = ':' || c = '/'

/-- match `CVSS:3\.\d/` at the head; returns the rest -/
def matchPrefix (isDigit : Char → Bool) : Str → Option Str
  | 'C' :: 'V' :: 'S' :: 'S' :: ':' :: '3' :: '.' :: d :: '/' :: rest => if isDigit d then some rest else none
  | _ => none

/-- longest run of class characters at the head: (run, rest) -/
def classRun : Str → Str × Str
  | [] => ([], [])
  | c :: cs => if inClass c then let r := classRun cs; (c :: r.1, r.2) else ([], c :: cs)

/-- try to match the whole pattern at the head of `s`: (match, rest) -/
def matchHere (isDigit : Char → Bool) (s : Str) : Option (Str × Str) :=
  let direct : Option (Str × Str) :=
    let r := classRun s
    if r.1.length ≥ 26 then some r else none
  match matchPrefix isDigit s with
  | some rest =>
    let r := classRun rest
    if r.1.length ≥ 26 then some (s.take 9 ++ r.1, r.2) else direct
  | none => direct

/-- `findall`: all non-overlapping matches, scanning left to right (fuel = length of the text) -/
def findAll (isDigit : Char → Bool) : Nat → Str → List Str
  | 0, _ => []
  | _, [] => []
  | fuel + 1, c :: cs =>
    match matchHere isDigit (c :: cs) with
    | some (m, rest) => m :: findAll isDigit fuel rest
    | none => findAll isDigit fuel cs

/-- ASCII digits plus the generated table of other Unicode decimal digits -/
def isDigitWith (nd : List (Nat × Nat)) (c : Char) : Bool :=
  (48 ≤ c.toNat && c.toNat ≤ 57) || nd.any (fun (a, b) => a ≤ c.toNat && c.toNat ≤ b)

/-- `if cvss not in seen: seen.add(cvss); cvsss.append(cvss)`: the object already present is kept -/
def addDedup (acc : List AnyObj) (o : AnyObj) : List AnyObj :=
  if acc.any (fun a => a.eq o) then acc else acc ++ [o]

/-- the loop over matches; `none` ⇔ a constructor raises outside the CVSSError hierarchy (parser.py also swallows
    KeyError; the model does not, and `C04.no_foreign_exception` shows that the case never arises) -/
def collect : List AnyObj → List Str → Option (List AnyObj)
  | acc, [] => some acc
  | acc, m :: rest =>
    let res := if startsWith c!"CVSS:3." m then construct .v3 m else construct .v2 m
    match res with
    | .ok o => collect (addDedup acc o) rest
    | .error .foreign => none
    | .error _ => collect acc rest

/-- `parse_cvss_from_text(text)`: the duplicate-free list `cvsss`, in order of first occurrence -/
def parseText (isDigit : Char → Bool) (text : Str) : Option (List AnyObj) :=
  collect [] (findAll isDigit text.length text)

end Cvss.Model.Extract
