/-
  Model of cvss/cvss3.py (class CVSS3) over the generated tables `Cvss.Gen.V3`.
  `Decimal` arithmetic is modelled by exact rationals; the only inexact `Decimal` operations in
  cvss3.py are the two powers (`** 15`, `** 13`), see `Props/C19.lean` (`v3_base_decimal_robust`,
  `v3_env_decimal_robust`).
-/
import Cvss.Basic
import Cvss.Gen.V3
import Cvss.Model.Parse
namespace Cvss.Model.V3
open Cvss Cvss.Model

def tables : Tables where
  abbrs := keys Gen.V3.abbrs
  legal := Gen.V3.values.map (fun (k, row) => (k, keys row))
  mandatory := Gen.V3.mandatory
  v4style := false

def X : Str := c!"X"

def prefixes : List Str := [c!"CVSS:3.0/", c!"CVSS:3.1/"]

def r (n : Int) (d : Nat) : Rat := mkRat n d

/-- the literal dict in `get_value` for Privileges Required under (Modified) Scope Changed -/
def prChanged : List (Str × Option Rat) :=
  [(c!"X", none), (c!"N", some (r 85 100)), (c!"L", some (r 68 100)), (c!"H", some (r 50 100))]

/-- the list iterated by `add_missing_optional` -/
def modifiedMetrics : List Str :=
  [c!"MAV", c!"MAC", c!"MPR", c!"MUI", c!"MC", c!"MS", c!"MI", c!"MA"]

/-- `add_missing_optional`: `none` ⇔ KeyError on the base metric -/
def addMissingOptional : MMap → List Str → Option MMap
  | m, [] => some m
  | m, a :: rest =>
    match lookup a m with
    | some v =>
      if v = X then
        match lookup (a.drop 1) m with
        | none => none
        | some b => addMissingOptional (insert a b m) rest
      else addMissingOptional m rest
    | none =>
      match lookup (a.drop 1) m with
      | none => none
      | some b => addMissingOptional (insert a b m) rest

structure Ctx where
  metrics : MMap       -- `self.metrics` after `add_missing_optional`
  scope : Str
  modScope : Str

/-- `get_value` -/
def getValue (c : Ctx) (abbr : Str) : Option Rat :=
  let sv := (lookup abbr c.metrics).getD X
  if (abbr = c!"PR" ∧ c.scope = c!"C") ∨ (abbr = c!"MPR" ∧ c.modScope = c!"C") then
    match lookup sv prChanged with
    | none => none
    | some w => w
  else
    match lookup abbr Gen.V3.values with
    | none => none
    | some row =>
      match lookup sv row with
      | none => none
      | some w => w

def getDescription (m : MMap) (abbr : Str) : Option Str :=
  match lookup abbr Gen.V3.valueNames with
  | none => none
  | some row => lookup ((lookup abbr m).getD X) row

def iscBase (c : Ctx) : Option Rat := do
  let cc ← getValue c c!"C"
  let i ← getValue c c!"I"
  let a ← getValue c c!"A"
  pure (1 - ((1 - cc) * (1 - i) * (1 - a)))

/-- `compute_isc` (`none` ⇔ RuntimeError "Invalid Scope") -/
def isc (c : Ctx) (ib : Rat) : Option Rat :=
  if c.scope = c!"U" then some (r 642 100 * ib)
  else if c.scope = c!"C" then some (r 752 100 * (ib - r 29 1000) - r 325 100 * (ib - r 2 100) ^ 15)
  else none

def esc (c : Ctx) : Option Rat := do
  let av ← getValue c c!"AV"
  let ac ← getValue c c!"AC"
  let pr ← getValue c c!"PR"
  let ui ← getValue c c!"UI"
  pure (r 822 100 * av * ac * pr * ui)

/-- `compute_base_score` -/
def baseScore (c : Ctx) : Option Rat := do
  let ib ← iscBase c
  let i ← isc c ib
  let e ← esc c
  if i ≤ 0 then pure 0
  else if c.scope = c!"U" then pure (roundUp1 (pyMin (i + e) 10))
  else if c.scope = c!"C" then pure (roundUp1 (pyMin (r 108 100 * (i + e)) 10))
  else none -- `assert self.scope in ("U", "C")`

/-- `compute_temporal_score` -/
def temporalScore (c : Ctx) (base : Rat) : Option Rat := do
  let e ← getValue c c!"E"
  let rl ← getValue c c!"RL"
  let rc ← getValue c c!"RC"
  pure (roundUp1 (base * e * rl * rc))

def modifiedIscBase (c : Ctx) : Option Rat := do
  let mc ← getValue c c!"MC"
  let cr ← getValue c c!"CR"
  let mi ← getValue c c!"MI"
  let ir ← getValue c c!"IR"
  let ma ← getValue c c!"MA"
  let ar ← getValue c c!"AR"
  pure (pyMin (1 - (1 - mc * cr) * (1 - mi * ir) * (1 - ma * ar)) (r 915 1000))

/-- `compute_modified_isc_30` / `compute_modified_isc` selected by `minor_version` -/
def modifiedIsc (c : Ctx) (minor : Nat) (mib : Rat) : Rat :=
  if c.modScope = c!"U" then r 642 100 * mib
  else if minor = 0 then r 752 100 * (mib - r 29 1000) - r 325 100 * (mib - r 2 100) ^ 15
  else r 752 100 * (mib - r 29 1000) - r 325 100 * (mib * r 9731 10000 - r 2 100) ^ 13

def modifiedEsc (c : Ctx) : Option Rat := do
  let av ← getValue c c!"MAV"
  let ac ← getValue c c!"MAC"
  let pr ← getValue c c!"MPR"
  let ui ← getValue c c!"MUI"
  pure (r 822 100 * av * ac * pr * ui)

/-- `compute_environmental_score` -/
def environmentalScore (c : Ctx) (minor : Nat) : Option Rat := do
  let mib ← modifiedIscBase c
  let mi := modifiedIsc c minor mib
  let me ← modifiedEsc c
  if mi ≤ 0 then pure 0
  else do
    let modified :=
      if c.modScope = c!"U" then roundUp1 (pyMin (mi + me) 10)
      else roundUp1 (pyMin (r 108 100 * (mi + me)) 10)
    let e ← getValue c c!"E"
    let rl ← getValue c c!"RL"
    let rc ← getValue c c!"RC"
    pure (roundUp1 (modified * e * rl * rc))

structure Obj where
  vector : Str
  minor : Nat
  /-- `self.original_metrics` -/
  orig : MMap
  /-- `self.metrics` (modified metrics filled in) -/
  metrics : MMap
  base : Rat
  temporal : Rat
  env : Rat
  deriving Repr

/-- everything `__init__` does after `check_mandatory`; `none` ⇔ a foreign exception -/
def build (s : Str) (minor : Nat) (m : MMap) : Option Obj := do
  -- handle_scope
  let scope ← lookup c!"S" m
  let ms := match lookup c!"MS" m with
    | none => scope
    | some v => if v = X then scope else v
  -- add_missing_optional
  let full ← addMissingOptional m modifiedMetrics
  let c : Ctx := { metrics := full, scope := scope, modScope := ms }
  let b ← baseScore c
  let t ← temporalScore c b
  let e ← environmentalScore c minor
  pure { vector := s, minor := minor, orig := m, metrics := full, base := b, temporal := t, env := e }

/-- `parse_vector()` followed by `check_mandatory()`: (minor version, metrics) -/
def parse (s : Str) : Except Err (Nat × MMap) :=
  match parseWithPrefix tables prefixes s with
  | .error e => .error e
  | .ok (i, m) =>
    match checkMandatory tables m with
    | .error e => .error e
    | .ok _ => .ok (i, m)

/-- `CVSS3(vector)` -/
def construct (s : Str) : Except Err Obj :=
  match parse s with
  | .error e => .error e
  | .ok (i, m) =>
    match build s i m with
    | none => .error .foreign
    | some o => .ok o

def Obj.scores (o : Obj) : List (Option Rat) := [some o.base, some o.temporal, some o.env]

def versionPrefix (minor : Nat) : Str := c!"CVSS:3." ++ natToStr minor ++ c!"/"

/-- `clean_vector(output_prefix)` -/
def cleanOf (minor : Nat) (orig : MMap) (outputPrefix : Bool) : Str :=
  (if outputPrefix then versionPrefix minor else []) ++
  join '/' ((keys Gen.V3.abbrs).filterMap (fun k =>
    match lookup k orig with
    | some v => if v ≠ X then some (k ++ ':' :: v) else none
    | none => none))

def Obj.clean (o : Obj) (outputPrefix : Bool := true) : Str := cleanOf o.minor o.orig outputPrefix

def sevOf (s : Rat) : Str :=
  if s = 0 then c!"None"
  else if s ≤ r 39 10 then c!"Low"
  else if s ≤ r 69 10 then c!"Medium"
  else if s ≤ r 89 10 then c!"High"
  else c!"Critical"

def Obj.severities (o : Obj) : List Str := [sevOf o.base, sevOf o.temporal, sevOf o.env]

def Obj.temporalVector (o : Obj) : Str :=
  join '/' (Gen.V3.temporal.map (fun k => k ++ ':' :: (lookup k o.metrics).getD X))

def Obj.environmentalVector (o : Obj) : Str :=
  join '/' (Gen.V3.environmental.map (fun k => k ++ ':' :: (lookup k o.metrics).getD X))

end Cvss.Model.V3
