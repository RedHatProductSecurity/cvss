/-
  Model of cvss/cvss_calculator.py `main()`: version dispatch, interactive fall-back, report format.
  Exception message texts are not modelled: an error is reported as the single line `errorLine`,
  which the harness instantiates with `str(exception)` obtained from the API.
-/
import Cvss.Model.Json
import Cvss.Model.Interactive
namespace Cvss.Model.Cli
open Cvss Cvss.Model

structure Flags where
  f2 : Bool
  f3 : Bool
  f4 : Bool
  all : Bool
  noColors : Bool
  json : Bool
  vector : Option Str      -- `-v VECTOR`
  deriving Repr

/-- `version_mapping.get(next((key for key in ("2", "3", "4") if getattr(args, key)), None), DEFAULT_VERSION)`:
    the first version flag given, in the order "2", "3", "4" -/
def version (f : Flags) : Interactive.IVer :=
  if f.f2 then .i2 else if f.f3 then .i30 else if f.f4 then .i4 else .i31

def classOf : Interactive.IVer → Ver
  | .i2 => .v2 | .i30 => .v3 | .i31 => .v3 | .i4 => .v4

def PAD : Nat := 24

def scoreNames : List Str := [c!"Base Score", c!"Temporal Score", c!"Environmental Score"]

/-- `print(*score)` for slot i -/
def scoreText (v : Interactive.IVer) (o : AnyObj) (i : Nat) : Option Str :=
  match o.scores[i]? with
  | none => none                       -- IndexError → `pass`
  | some sc =>
    let num : Str := match sc with
      | none => c!"None"
      | some x => showScore x
    if v = .i2 then some num
    else
      match o.severities[i]? with
      | none => none
      | some sev => some (num ++ c!" (" ++ sev ++ c!")")

def jsonEscape (s : Str) : Str :=
  s.flatMap (fun c => if c = '"' then c!"\\\"" else if c = '\\' then c!"\\\\" else [c])

def jvalText : JVal → Str
  | .str s => '"' :: jsonEscape s ++ c!"\""
  | .num x => showScore x

/-- `json.dumps(obj, indent=2)` of a flat object, as lines -/
def jsonLines (o : JObj) : List Str :=
  if o = [] then [c!"{}"]
  else
    let n := o.length
    [c!"{"] ++
    (o.zipIdx.map (fun (kv, i) =>
      c!"  \"" ++ jsonEscape kv.1 ++ c!"\": " ++ jvalText kv.2 ++ (if i + 1 < n then c!"," else []))) ++
    [c!"}"]

def errorLine : Str := c!"<error message>"

/-- the part of stdout printed after the vector string is known; `none` ⇔ an exception escapes -/
def report (f : Flags) (vectorString : Str) : Option (List Str) :=
  let v := version f
  match construct (classOf v) vectorString with
  | .error .foreign => none
  | .error _ => some [errorLine]
  | .ok o =>
    let head : Str := match v with
      | .i2 => c!"CVSS2" | .i4 => c!"CVSS4" | _ => c!"CVSS3"
    let scoreLines := (scoreNames.zipIdx.filterMap (fun (name, i) =>
      match scoreText v o i with
      | none => none
      | some t => some (name ++ c!":" ++ List.replicate (PAD - name.length - 2) ' ' ++ t)))
    let tail := [c!"Cleaned vector:        " ++ o.clean, c!"Red Hat vector:        " ++ o.rh]
    if f.json then
      match o.asJson true true with
      | none => none
      | some j => some ([head] ++ scoreLines ++ tail ++ [c!"CVSS vector in JSON:"] ++ jsonLines j)
    else some ([head] ++ scoreLines ++ tail)

inductive Outcome
  | lines (ls : List Str)       -- report lines (after any interactive dialogue), exit status 0
  | eof                         -- EOFError during interactive entry: prints a newline, exit status 0
  | crash                       -- an exception escapes
  deriving Repr

/-- `main()` given the lines available on stdin -/
def main (f : Flags) (stdin : List Str) : Outcome :=
  let vec : Option Str := match f.vector with
    | some s => if s = [] then none else some s
    | none => none
  match vec with
  | some s =>
    match report f s with
    | some ls => .lines ls
    | none => .crash
  | none =>
    match Interactive.ask (version f) f.all stdin with
    | .eof _ => .eof
    | .keyError => .crash
    | .result s _ _ =>
      match report f s with
      | some ls => .lines ls
      | none => .crash

end Cvss.Model.Cli
