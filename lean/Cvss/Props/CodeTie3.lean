/-
  Source tie, CVSS3: the model `Cvss.Model.V3` equals the translation of cvss/cvss3.py (`Cvss.Gen.Code3`); obligations
  and `Aux` as in `CodeTie2.lean`.  Each scoring method is stated through `Py.view`, and `Aux.init_tail_view` walks the
  tail of `__init__` along these statements.
-/
import Cvss.Lemmas.PyM
import Cvss.Gen.Code3
import Cvss.Model.V3
namespace Cvss.Props.CodeTie3
open Cvss Cvss.Gen

theorem round_eq (x : Rat) : Code3.round_up x = .ok (roundUp1 x) := by
  rfl

def ctxOf (self : Code3.Self) (sc ms : Str) : Model.V3.Ctx :=
  { metrics := self.metrics, scope := sc, modScope := ms }

namespace Aux

theorem toOption_pure {ε α : Type} (a : α) : (pure a : Except ε α).toOption = some a := rfl
theorem toOption_ok {ε α : Type} (a : α) : (Except.ok a : Except ε α).toOption = some a := rfl
theorem toOption_error {ε α : Type} (e : ε) : (Except.error e : Except ε α).toOption = none := rfl
theorem toOption_raise {α : Type} (e : Py.Exc) : (Py.raise e : Py.M α).toOption = none := rfl
theorem toOption_round_up (x : Rat) : (Code3.round_up x).toOption = some (roundUp1 x) := rfl
theorem toOption_eq_some {ε α : Type} {x : Except ε α} {a : α} (h : x = .ok a) : x.toOption = some a := by
  subst_vars
  rfl
theorem toOption_eq_none {ε α : Type} {x : Except ε α} {e : ε} (h : x = .error e) : x.toOption = none := by
  subst_vars
  rfl

def Foreign {α : Type} (x : Py.M α) : Prop := ∀ e, x = .error e → e.toErr = .foreign

theorem Foreign.ok {α : Type} (a : α) : Foreign (.ok a : Py.M α) := Py.Foreign.ok a
theorem Foreign.assert (c : Prop) [Decidable c] : Foreign (Py.assert c) := Py.Foreign.assert c

abbrev key (x : Code3.Self) : Str × Option Int := (x.vector, x.minor_version)

def Keeps (k : Str × Option Int) (m : Py.M Code3.Self) : Prop := ∀ x, m = .ok x → key x = k

theorem prTable :
    ([(c!"X", none), (c!"N", (some (mkRat (17) 20))), (c!"L", (some (mkRat (17) 25))), (c!"H", (some (mkRat (1) 2)))] : List (Str × (Option Rat)))
      = Model.V3.prChanged := by
  decide

theorem Foreign.get_value (self : Code3.Self) (a : Str) : Foreign (Code3.get_value self a) := by
  show Py.Foreign _
  unfold Code3.get_value
  foreign []

end Aux

/-- `get_value`, including the literal Privileges-Required table for (Modified) Scope Changed (`.bind id`: as in
    `CodeTie2.get_value_eq`) -/
theorem get_value_eq (self : Code3.Self) (sc ms : Str) (a : Str)
    (h1 : self.scope = some sc) (h2 : self.modified_scope = some ms) :
    (Code3.get_value self a).toOption.bind id = Model.V3.getValue (ctxOf self sc ms) a := by
  unfold Code3.get_value Model.V3.getValue
  simp only [Aux.prTable, h1, h2, ctxOf, Option.some.injEq, Py.getD, Model.V3.X,
    Py.toOption_bind, Aux.toOption_pure, apply_ite Except.toOption, Py.toOption_getitem]
  by_cases hc : (a = c!"PR" ∧ sc = c!"C") ∨ (a = c!"MPR" ∧ ms = c!"C")
  · simp only [if_pos hc]
    cases lookup ((lookup a self.metrics).getD c!"X") Model.V3.prChanged <;> simp [hc]
  · simp only [if_neg hc]
    cases lookup a Gen.V3.values with
    | none => simp [hc]
    | some row =>
      cases h' : lookup ((lookup a self.metrics).getD c!"X") row <;> simp [h', hc]

theorem get_value_description_eq (self : Code3.Self) (a : Str) :
    (Code3.get_value_description self a).toOption = Model.V3.getDescription self.metrics a := by
  unfold Code3.get_value_description Model.V3.getDescription
  simp only [Py.getD, Model.V3.X, Py.toOption_bind, Aux.toOption_pure, Py.toOption_getitem]
  cases lookup a Gen.V3.valueNames with
  | none => rfl
  | some row => simp

namespace Aux

theorem amo_state (self : Code3.Self) :
    (Code3.add_missing_optional self).toOption =
      (Model.V3.addMissingOptional self.metrics Model.V3.modifiedMetrics).map
        (fun full => { self with original_metrics := some self.metrics, metrics := full }) :=
  -- (`modifiedMetrics` unfolds to the method's literal list of names)
  Py.amo_fold Code3.Self.metrics (fun s m => { s with metrics := m }) (fun _ _ => rfl) (fun _ _ => rfl) (fun _ => rfl)
    Model.V3.modifiedMetrics { self with original_metrics := some self.metrics }

end Aux

theorem add_missing_optional_eq (self : Code3.Self) :
    (Code3.add_missing_optional self).toOption.map (fun s => (s.original_metrics, s.metrics)) =
      (Model.V3.addMissingOptional self.metrics Model.V3.modifiedMetrics).map
        (fun full => (some self.metrics, full)) := by
  rw [Aux.amo_state]
  cases Model.V3.addMissingOptional self.metrics Model.V3.modifiedMetrics <;> rfl

namespace Aux
open Model.V3

-- the model writes the guide's constants as `r 642 100`; the translator emits a `Decimal` literal in lowest terms
theorem q_642 : r 642 100 = mkRat 321 50 := by decide
theorem q_752 : r 752 100 = mkRat 188 25 := by decide
theorem q_29 : r 29 1000 = mkRat 29 1000 := rfl
theorem q_325 : r 325 100 = mkRat 13 4 := by decide
theorem q_2 : r 2 100 = mkRat 1 50 := by decide
theorem q_822 : r 822 100 = mkRat 411 50 := by decide
theorem q_108 : r 108 100 = mkRat 27 25 := by decide
theorem q_915 : r 915 1000 = mkRat 183 200 := by decide
theorem q_9731 : r 9731 10000 = mkRat 9731 10000 := rfl

/-- the code's `if scope == "U": … elif scope == "C": … else:` (never both) -/
theorem scope_cases (sc : Str) :
    (sc = c!"U" ∧ sc ≠ c!"C") ∨ (sc ≠ c!"U" ∧ sc = c!"C") ∨ (sc ≠ c!"U" ∧ sc ≠ c!"C") := by
  by_cases hu : sc = c!"U"
  · exact Or.inl ⟨hu, hu ▸ by decide⟩
  · by_cases hc : sc = c!"C"
    · exact Or.inr (Or.inl ⟨hu, hc⟩)
    · exact Or.inr (Or.inr ⟨hu, hc⟩)

/-! Each method below is stated through `Py.view`: the whole object it returns where the model has a value, an
    exception outside the hierarchy where the model has `none`. -/

/-- `t ← get_value self a; v ← req t; K v` reads the model's `getValue` -/
theorem get_value_req {β : Type} (self : Code3.Self) (sc ms : Str) (h1 : self.scope = some sc)
    (h2 : self.modified_scope = some ms) (a : Str) (K : Rat → Except Err β) :
    (Py.view (Code3.get_value self a) >>= fun t => Py.ofOption t >>= K) =
      Py.ofOption (getValue (ctxOf self sc ms) a) >>= K := by
  rw [← get_value_eq self sc ms a h1 h2, Py.view_eq_ofOption rfl (Foreign.get_value self a)]
  cases (Code3.get_value self a).toOption with
  | none => rfl
  | some t => cases t <;> rfl

theorem isc_base_view (self : Code3.Self) (sc ms : Str) (h1 : self.scope = some sc)
    (h2 : self.modified_scope = some ms) :
    Py.view (Code3.compute_isc_base self) =
      Py.ofOption ((iscBase (ctxOf self sc ms)).map (fun v => { self with isc_base := some v })) := by
  unfold Code3.compute_isc_base iscBase
  simp only [Py.view_bind, Py.view_req, Py.view_pure, get_value_req self sc ms h1 h2, Py.q1, Option.bind_eq_bind,
    Option.pure_def, Py.ofOption_map_bind, Option.map_some, Py.ofOption_some]

theorem isc_view (self : Code3.Self) (sc ms : Str) (h1 : self.scope = some sc) :
    Py.view (Code3.compute_isc self) =
      Py.ofOption ((self.isc_base.bind (isc (ctxOf self sc ms))).map (fun v => { self with isc := some v })) := by
  unfold Code3.compute_isc isc
  simp only [Py.view_bind, Py.view_req, Py.view_pure, apply_ite Py.view, Py.view_raise, h1, Option.some.injEq,
    ctxOf, q_642, q_752, q_29, q_325, q_2]
  rcases scope_cases sc with ⟨hu, hc⟩ | ⟨hu, hc⟩ | ⟨hu, hc⟩ <;> cases self.isc_base <;>
    simp [hu, hc, Py.ofOption, Py.Exc.toErr, Py.ok_bind, Py.error_bind]

theorem esc_view (self : Code3.Self) (sc ms : Str) (h1 : self.scope = some sc)
    (h2 : self.modified_scope = some ms) :
    Py.view (Code3.compute_esc self) =
      Py.ofOption ((esc (ctxOf self sc ms)).map (fun v => { self with esc := some v })) := by
  unfold Code3.compute_esc esc
  simp only [Py.view_bind, Py.view_req, Py.view_pure, get_value_req self sc ms h1 h2, q_822, Option.bind_eq_bind,
    Option.pure_def, Py.ofOption_map_bind, Option.map_some, Py.ofOption_some]

/-- the tail of `Model.V3.baseScore` after `iscBase`, `isc`, `esc`, as a function of their values -/
def baseFin (c : Ctx) (i e : Rat) : Option Rat :=
  if i ≤ 0 then pure 0
  else if c.scope = c!"U" then pure (roundUp1 (pyMin (i + e) 10))
  else if c.scope = c!"C" then pure (roundUp1 (pyMin (r 108 100 * (i + e)) 10))
  else none

theorem base_view (self : Code3.Self) (sc ms : Str) (h1 : self.scope = some sc)
    (h2 : self.modified_scope = some ms) :
    Py.view (Code3.compute_base_score self) =
      Py.ofOption ((iscBase (ctxOf self sc ms)).bind fun ib => (isc (ctxOf self sc ms) ib).bind fun i =>
        (esc (ctxOf self sc ms)).bind fun e => (baseFin (ctxOf self sc ms) i e).map fun b =>
          { self with isc_base := some ib, isc := some i, esc := some e, base_score := some b }) := by
  unfold Code3.compute_base_score
  refine Py.view_bind_map (isc_base_view self sc ms h1 h2) fun ib => ?_
  refine Py.view_bind_map (isc_view _ sc ms h1) fun i => ?_
  refine Py.view_bind_map (esc_view _ sc ms h1 h2) fun e => ?_
  simp only [Py.view_bind, Py.view_req, apply_ite Py.view, Py.view_pure, Py.view_assert, round_eq, h1, Option.some.injEq,
    Py.q0, Py.q10, baseFin, ctxOf, q_108, Option.pure_def, Py.ofOption, Py.ok_bind]
  by_cases hi : i ≤ 0
  · simp [hi]
  · rcases scope_cases sc with ⟨hu, hc⟩ | ⟨hu, hc⟩ | ⟨hu, hc⟩ <;> simp [hi, hu, hc, Py.ok_bind, Py.error_bind]

theorem temporal_view (self : Code3.Self) (sc ms : Str) (h1 : self.scope = some sc)
    (h2 : self.modified_scope = some ms) :
    Py.view (Code3.compute_temporal_score self) =
      Py.ofOption ((self.base_score.bind (temporalScore (ctxOf self sc ms))).map
        (fun v => { self with temporal_score := some v })) := by
  unfold Code3.compute_temporal_score temporalScore
  simp only [Py.view_bind, Py.view_req, Py.view_pure, round_eq, Option.bind_eq_bind,
    get_value_req self sc ms h1 h2, Option.pure_def, Py.ofOption_map_bind, Option.map_some, Py.ofOption_some, Py.ok_bind]

theorem mib_view (self : Code3.Self) (sc ms : Str) (h1 : self.scope = some sc)
    (h2 : self.modified_scope = some ms) :
    Py.view (Code3.compute_modified_isc_base self) =
      Py.ofOption ((modifiedIscBase (ctxOf self sc ms)).map (fun v => { self with modified_isc_base := some v })) := by
  unfold Code3.compute_modified_isc_base modifiedIscBase
  simp only [Py.view_bind, Py.view_req, Py.view_pure, Option.bind_eq_bind, get_value_req self sc ms h1 h2, Py.q1, q_915,
    Option.pure_def, Py.ofOption_map_bind, Option.map_some, Py.ofOption_some]

theorem misc30_view (self : Code3.Self) (sc ms : Str) (h2 : self.modified_scope = some ms) :
    Py.view (Code3.compute_modified_isc_30 self) =
      Py.ofOption (self.modified_isc_base.map
        (fun mib => { self with modified_isc := some (modifiedIsc (ctxOf self sc ms) 0 mib) })) := by
  unfold Code3.compute_modified_isc_30 modifiedIsc
  simp only [Py.view_bind, Py.view_req, apply_ite Py.view, Py.view_pure, h2, Option.some.injEq, ctxOf,
    q_642, q_752, q_29, q_325, q_2]
  cases self.modified_isc_base <;> by_cases hu : ms = c!"U" <;> simp [hu, Py.ofOption, Py.ok_bind, Py.error_bind]

theorem misc31_view (self : Code3.Self) (sc ms : Str) (minor : Nat) (hminor : minor ≠ 0)
    (h2 : self.modified_scope = some ms) :
    Py.view (Code3.compute_modified_isc self) =
      Py.ofOption (self.modified_isc_base.map
        (fun mib => { self with modified_isc := some (modifiedIsc (ctxOf self sc ms) minor mib) })) := by
  unfold Code3.compute_modified_isc modifiedIsc
  simp only [Py.view_bind, Py.view_req, apply_ite Py.view, Py.view_pure, h2, Option.some.injEq, ctxOf,
    q_642, q_752, q_29, q_325, q_2, q_9731]
  cases self.modified_isc_base <;> by_cases hu : ms = c!"U" <;>
    simp [hu, hminor, Py.ofOption, Py.ok_bind, Py.error_bind]

theorem mesc_view (self : Code3.Self) (sc ms : Str) (h1 : self.scope = some sc)
    (h2 : self.modified_scope = some ms) :
    Py.view (Code3.compute_modified_esc self) =
      Py.ofOption ((modifiedEsc (ctxOf self sc ms)).map (fun v => { self with modified_esc := some v })) := by
  unfold Code3.compute_modified_esc modifiedEsc
  simp only [Py.view_bind, Py.view_req, Py.view_pure, Option.bind_eq_bind, get_value_req self sc ms h1 h2, q_822,
    Option.pure_def, Py.ofOption_map_bind, Option.map_some, Py.ofOption_some]

/-- likewise the tail of `environmentalScore` -/
def envFin (c : Ctx) (mi me : Rat) : Option Rat :=
  if mi ≤ 0 then pure 0
  else do
    let modified :=
      if c.modScope = c!"U" then roundUp1 (pyMin (mi + me) 10)
      else roundUp1 (pyMin (r 108 100 * (mi + me)) 10)
    let e ← getValue c c!"E"
    let rl ← getValue c c!"RL"
    let rc ← getValue c c!"RC"
    pure (roundUp1 (modified * e * rl * rc))

/-- the two versions of `compute_modified_isc` as one step that, given `modified_isc_base`, cannot fail (the code asks whether `minor_version`
    is 0, and nothing else about it; `c` is a variable so that the result does not mention `ctxOf` of the object) -/
theorem misc_view (self : Code3.Self) (sc ms : Str) (minor : Nat) (mib : Rat) (c : Ctx)
    (hc : c = ctxOf self sc ms) (h2 : self.modified_scope = some ms)
    (hm : self.minor_version = some (0 : Int) ↔ minor = 0) (hb : self.modified_isc_base = some mib) :
    (if self.minor_version = some (0 : Int) then Code3.compute_modified_isc_30 self
        else Code3.compute_modified_isc self) =
      .ok { self with modified_isc := some (modifiedIsc c minor mib) } := by
  subst hc
  refine Py.ok_of_view ?_
  by_cases h0 : minor = 0
  · rw [if_pos (hm.2 h0), misc30_view self sc ms h2, h0, hb]
    rfl
  · rw [if_neg (mt hm.1 h0), misc31_view self sc ms minor h0 h2, hb]
    rfl

theorem env_view (self : Code3.Self) (sc ms : Str) (minor : Nat) (h1 : self.scope = some sc)
    (h2 : self.modified_scope = some ms) (hm : self.minor_version = some (0 : Int) ↔ minor = 0) :
    Py.view (Code3.compute_environmental_score self) =
      Py.ofOption ((modifiedIscBase (ctxOf self sc ms)).bind fun mib =>
        (modifiedEsc (ctxOf self sc ms)).bind fun me =>
          (envFin (ctxOf self sc ms) (modifiedIsc (ctxOf self sc ms) minor mib) me).map fun e =>
            { self with modified_isc_base := some mib,
                        modified_isc := some (modifiedIsc (ctxOf self sc ms) minor mib),
                        modified_esc := some me, environmental_score := some e }) := by
  unfold Code3.compute_environmental_score
  refine Py.view_bind_map (mib_view self sc ms h1 h2) fun mib => ?_
  refine Py.view_bind_ok (misc_view _ sc ms minor mib (ctxOf self sc ms) rfl h2 hm rfl) ?_
  refine Py.view_bind_map (mesc_view _ sc ms h1 h2) fun me => ?_
  have g := get_value_req (β := Code3.Self)
    { self with modified_isc_base := some mib, modified_isc := some (modifiedIsc (ctxOf self sc ms) minor mib),
                modified_esc := some me } sc ms h1 h2
  simp only [apply_ite Py.view, Py.view_bind, Py.view_req, Py.view_pure, round_eq, g, Py.ofOption_some, Py.ok_bind]
  generalize modifiedIsc (ctxOf self sc ms) minor mib = mi
  simp only [h2, Option.some.injEq, Py.q0, Py.q10, envFin, ctxOf, q_108, Option.pure_def, Option.bind_eq_bind]
  by_cases hi : mi ≤ 0
  · simp [hi, Py.ofOption]
  · by_cases hu : ms = c!"U" <;>
      simp only [hi, hu, if_true, if_false, Py.ofOption_map_bind, Option.map_some, Py.ofOption_some, Py.ok_bind]

/-- the modified scope that `handle_scope` / `build` compute -/
def msOf (m : List (Str × Str)) (scope : Str) : Str :=
  match lookup c!"MS" m with
  | none => scope
  | some v => if v = X then scope else v

theorem scope_view (self : Code3.Self) :
    Py.view (Code3.handle_scope self) =
      Py.ofOption ((lookup c!"S" self.metrics).map
        (fun sc => { self with scope := some sc, modified_scope := some (msOf self.metrics sc) })) := by
  unfold Code3.handle_scope msOf
  simp only [Py.view_bind, Py.view_getitem, apply_ite Py.view, Py.view_pure, Py.get?, X]
  cases lookup c!"S" self.metrics with
  | none => rfl
  | some sc =>
    cases lookup c!"MS" self.metrics with
    | none => simp [Py.ofOption_some, Py.ok_bind]
    | some v => by_cases hv : v = c!"X" <;> simp [hv, Py.ofOption_some, Py.ok_bind]

theorem amo_view (self : Code3.Self) :
    Py.view (Code3.add_missing_optional self) =
      Py.ofOption ((addMissingOptional self.metrics modifiedMetrics).map
        (fun full => { self with original_metrics := some self.metrics, metrics := full })) := by
  refine Py.view_eq_ofOption (amo_state self) ?_
  unfold Code3.add_missing_optional
  foreign []

-- (`init_tail` ignores `vector`; `s` only becomes `o.vector`, which the projection drops)
theorem init_tail_view (self : Code3.Self) (vector s : Str) (minor : Nat)
    (hm : self.minor_version = some (0 : Int) ↔ minor = 0) :
    (Py.view (Code3.init_tail self vector)).map
        (fun x => (x.vector, x.minor_version, x.original_metrics, x.metrics, x.base_score, x.temporal_score,
                   x.environmental_score)) =
      (Py.ofOption (Model.V3.build s minor self.metrics)).map
        (fun o => (self.vector, self.minor_version, some o.orig, o.metrics, some o.base, some o.temporal,
                   some o.env)) := by
  rw [Py.sim_iff_map_eq]
  unfold Code3.init_tail
  refine Py.Sim.view_bind_map (scope_view self) fun sc => ?_
  refine Py.Sim.view_bind_map (amo_view _) fun full => ?_
  refine Py.Sim.view_bind (base_view _ sc (msOf self.metrics sc) rfl rfl) ?_
  refine Py.Sim.bind_bind fun ib => ?_
  refine Py.Sim.bind_bind fun i => ?_
  refine Py.Sim.bind_bind fun e => ?_
  refine Py.Sim.bind_map fun b => ?_
  refine Py.Sim.view_bind_map (temporal_view _ sc (msOf self.metrics sc) rfl rfl) fun t => ?_
  refine Py.Sim.view_last (env_view _ sc (msOf self.metrics sc) minor rfl rfl hm) ?_
  refine Py.Sim.bind_bind fun mib => ?_
  refine Py.Sim.bind_bind fun me => ?_
  refine Py.Sim.bind_map fun ev => ?_
  -- `msOf`, `baseFin`, `envFin` transcribe tails of `build`: the `refine`s above unify them against it; the `rfl` compares the records
  rfl

/-- whatever `minor_version` holds, some `minor` satisfies the hypothesis of `init_tail_view` -/
theorem minor_zero_iff (self : Code3.Self) :
    self.minor_version = some (0 : Int) ↔ (if self.minor_version = some (0 : Int) then 0 else 1) = 0 := by
  split <;> simp [*]

theorem Foreign.handle_scope (self : Code3.Self) : Foreign (Code3.handle_scope self) :=
  Py.Foreign.of_view (scope_view self)

theorem Foreign.round_up (x : Rat) : Foreign (Code3.round_up x) := Py.Foreign.ok _

theorem Foreign.temporal (self : Code3.Self) : Foreign (Code3.compute_temporal_score self) := by
  have hgv : ∀ a, Py.Foreign (Code3.get_value self a) := Foreign.get_value self
  show Py.Foreign _
  unfold Code3.compute_temporal_score Code3.round_up
  foreign [hgv]

theorem Keeps.handle_scope (self : Code3.Self) (k : Str × Option Int) (h : key self = k) :
    Keeps k (Code3.handle_scope self) := by
  intro x hx
  have hs := Py.toOption_of_view (scope_view self)
  rw [hx] at hs
  cases hl : lookup c!"S" self.metrics with
  | none =>
    rw [hl] at hs
    cases hs
  | some sc =>
    rw [hl] at hs
    cases hs
    exact h

theorem Keeps.temporal (self : Code3.Self) (k : Str × Option Int) (h : key self = k) :
    Keeps k (Code3.compute_temporal_score self) := by
  have hbind : ∀ {α : Type} (x : Py.M α) (f : α → Py.M Code3.Self),
      (∀ a, Keeps k (f a)) → Keeps k (x >>= f) := by
    intro α x f hf y hy
    cases x with
    | error e => cases hy
    | ok a => exact hf a y hy
  unfold Code3.compute_temporal_score
  iterate 8 (refine hbind _ _ fun _ => ?_)
  intro y hy
  cases hy
  exact h

end Aux

/-- what `__init__` computes after `check_mandatory()`: the translated source and the model's `build`
    produce the same original / filled-in metric dicts and the same three scores (or both raise), for
    EVERY metric dict and any minor version number held by `minor_version`, whatever the other attributes held -/
theorem init_tail_eq (self : Code3.Self) (vector s : Str) (minor : Nat)
    (hm : self.minor_version = some (minor : Int)) :
    (Code3.init_tail self vector).toOption.map
        (fun x => (x.original_metrics, x.metrics, x.base_score, x.temporal_score, x.environmental_score)) =
      (Model.V3.build s minor self.metrics).map
        (fun o => (some o.orig, o.metrics, some o.base, some o.temporal, some o.env)) := by
  have hm0 : self.minor_version = some (0 : Int) ↔ minor = 0 := by
    rw [hm]
    exact ⟨fun h => Int.ofNat.inj (Option.some.inj h), fun h => by rw [h]; rfl⟩
  have h := congrArg (Option.map (fun t => t.2.2))
    (Py.view_map_eq_iff.1 (Aux.init_tail_view self vector s minor hm0)).1
  simpa only [Option.map_map, Function.comp_def] using h

theorem init_tail_error (self : Code3.Self) (vector : Str) (e : Py.Exc)
    (h : Code3.init_tail self vector = .error e) : e.toErr = .foreign :=
  (Py.view_map_eq_iff.1 (Aux.init_tail_view self vector [] _ (Aux.minor_zero_iff self))).2 e h

theorem init_tail_frame (self x : Code3.Self) (vector : Str)
    (h : Code3.init_tail self vector = .ok x) : x.vector = self.vector ∧ x.minor_version = self.minor_version := by
  obtain ⟨o, -, ho⟩ := Py.ok_of_ok (Aux.init_tail_view self vector [] _ (Aux.minor_zero_iff self)) h
  exact ⟨congrArg Prod.fst ho, congrArg (fun t => t.2.1) ho⟩

namespace Aux

abbrev setM (s : Code3.Self) (m : Model.MMap) : Code3.Self := { s with metrics := m }

theorem parse_fold (l : List Str) (self : Code3.Self) :
    (List.foldlM (Py.parseBody Code3.Self.metrics setM Gen.V3.abbrs Gen.V3.values) self l).mapError Py.Exc.toErr =
      (Model.parseFields Model.V3.tables self.metrics l).map (fun m => { self with metrics := m }) :=
  -- (`get` is given as the projection: see `CodeTie2.Aux.parse_vector_view`)
  Py.parseFields_view Code3.Self.metrics setM Model.V3.tables _ (fun _ _ => rfl) (fun _ _ => rfl) (fun _ => rfl)
    (Py.parseBody_view Code3.Self.metrics setM Gen.V3.abbrs Gen.V3.values Model.V3.tables rfl
      (fun k => lookup_map_keys k _) rfl) l self

end Aux

theorem parse_vector_eq (self : Code3.Self) (h : self.metrics = []) :
    ((Code3.parse_vector self).mapError Py.Exc.toErr).map (fun x => (x.vector, x.minor_version, x.metrics)) =
      (Model.parseWithPrefix Model.V3.tables Model.V3.prefixes self.vector).map
        (fun r => (self.vector, some (r.1 : Int), r.2)) := by
  have hloop : ∀ i : Nat,
      ((List.foldlM (Py.parseBody Code3.Self.metrics Aux.setM Gen.V3.abbrs Gen.V3.values)
          { self with minor_version := some (i : Int) } (List.drop 1 (splitOn '/' self.vector))).mapError
        Py.Exc.toErr).map (fun x => (x.vector, x.minor_version, x.metrics)) =
      (match Model.parseFields Model.V3.tables [] (List.drop 1 (splitOn '/' self.vector)) with
        | .error e => .error e
        | .ok m => .ok (i, m) : Except Err (Nat × Model.MMap)).map (fun r => (self.vector, some (r.1 : Int), r.2)) := by
    intro i
    rw [Aux.parse_fold]
    dsimp only
    rw [h]
    cases Model.parseFields Model.V3.tables [] (List.drop 1 (splitOn '/' self.vector)) <;> rfl
  unfold Code3.parse_vector Model.parseWithPrefix
  by_cases h0 : self.vector = []
  · rw [if_pos h0, if_pos h0]
    rfl
  rw [if_neg h0, if_neg h0]
  by_cases h1 : endsWithChar '/' self.vector = true
  · rw [if_pos h1, if_pos h1]
    rfl
  rw [if_neg h1, if_neg h1]
  unfold Model.V3.prefixes
  by_cases h30 : startsWith c!"CVSS:3.0/" self.vector = true
  · rw [if_pos h30, List.findIdx?_cons, if_pos h30]
    exact hloop 0
  rw [if_neg h30, List.findIdx?_cons, if_neg h30]
  by_cases h31 : startsWith c!"CVSS:3.1/" self.vector = true
  · rw [if_pos h31, List.findIdx?_cons, if_pos h31]
    exact hloop 1
  · rw [if_neg h31, List.findIdx?_cons, if_neg h31]
    rfl

theorem check_mandatory_eq (self : Code3.Self) :
    (Code3.check_mandatory self).mapError Py.Exc.toErr = Model.checkMandatory Model.V3.tables self.metrics :=
  Py.check_mandatory_view Model.V3.tables self.metrics

namespace Aux
open Model.V3

theorem build_frame (s : Str) (minor : Nat) (m : List (Str × Str)) (o : Obj) (h : build s minor m = some o) :
    o.vector = s ∧ o.minor = minor ∧ o.orig = m := by
  unfold build at h
  simp only [Option.bind_eq_bind, Option.pure_def, Option.bind_eq_some_iff, Option.some.injEq] at h
  repeat obtain ⟨_, -, h⟩ := h
  subst_vars
  exact ⟨rfl, rfl, rfl⟩

theorem construct_bind (s : Str) :
    Model.V3.construct s =
      Model.parseWithPrefix tables prefixes s >>= fun r =>
        Model.checkMandatory tables r.2 >>= fun _ => Py.ofOption (build s r.1 r.2) := by
  unfold Model.V3.construct Model.V3.parse
  cases Model.parseWithPrefix tables prefixes s with
  | error e => rfl
  | ok r =>
    obtain ⟨i, m⟩ := r
    simp only [Py.ok_bind]
    cases Model.checkMandatory tables m with
    | error e => rfl
    | ok u =>
      simp only [Py.ok_bind]
      cases build s i m <;> rfl

end Aux

/-- the whole constructor, for every string: the same exception class, or the same vector, minor version, original
    and filled-in metric dicts and the same three scores -/
theorem construct_eq (s : Str) :
    ((Code3.construct s).mapError Py.Exc.toErr).map
        (fun x => (x.vector, x.minor_version, x.original_metrics, x.metrics, x.base_score, x.temporal_score,
                   x.environmental_score)) =
      (Model.V3.construct s).map
        (fun o => (o.vector, some (o.minor : Int), some o.orig, o.metrics, some o.base, some o.temporal, some o.env)) := by
  have hinit : Code3.construct s =
      Code3.parse_vector (Code3.initSelf s []) >>= fun self =>
        Code3.check_mandatory self >>= fun _ => Code3.init_tail self s := rfl
  rw [Py.sim_iff_map_eq, hinit, Aux.construct_bind, Py.mapError_bind]
  refine Py.Sim.bind (Py.sim_iff_map_eq.1 (parse_vector_eq (Code3.initSelf s []) rfl)) ?_
  intro x r hxr
  obtain ⟨hv, hmv, hm⟩ : x.vector = s ∧ x.minor_version = some (r.1 : Int) ∧ x.metrics = r.2 := by
    simpa only [Prod.mk.injEq, Code3.initSelf] using hxr
  rw [Py.mapError_bind, check_mandatory_eq, hm]
  refine Py.Sim.bind Py.Sim.of_eq ?_
  intro _ _ _
  have hm0 : x.minor_version = some (0 : Int) ↔ r.1 = 0 := by
    rw [hmv]
    exact ⟨fun h => Int.ofNat.inj (Option.some.inj h), fun h => by rw [h]; rfl⟩
  have h := Aux.init_tail_view x s s r.1 hm0
  rw [hm, hv, hmv] at h
  rw [← Py.sim_iff_map_eq, ← Py.view, h]
  cases hb : Model.V3.build s r.1 r.2 with
  | none => rfl
  | some o =>
    obtain ⟨h1, h2, -⟩ := Aux.build_frame s r.1 r.2 o hb
    simp only [Py.ofOption_some, Except.map, h1, h2]

namespace Aux

theorem fmtPrefix (x : Str) : Py.format c!"CVSS:3.{0}/" [x] = c!"CVSS:3." ++ x ++ c!"/" := by
  simp [Py.format, Py.formatAux, Py.fmtField]

theorem strOInt_nat (n : Nat) : Py.strOInt (some (n : Int)) = natToStr n := Py.strOInt_nat n

end Aux

theorem clean_vector_eq (self : Code3.Self) (orig : List (Str × Str)) (minor : Nat) (p : Bool)
    (h1 : self.original_metrics = some orig) (h2 : self.minor_version = some (minor : Int)) :
    Code3.clean_vector self p = .ok (Model.V3.cleanOf minor orig p) := by
  unfold Code3.clean_vector Model.V3.cleanOf
  simp only [h1, Py.req, Py.ok_bind]
  change (List.foldlM (Py.cleanBody orig c!"X") [] (keys Gen.V3.abbrs)) >>= _ = _
  rw [Py.clean_loop]
  change _ = Except.ok ((if p = true then Model.V3.versionPrefix minor else []) ++
    join '/' (List.filterMap (Py.cleanF orig c!"X") (keys Gen.V3.abbrs)))
  cases p <;> simp [Aux.fmtPrefix, h2, Aux.strOInt_nat, Model.V3.versionPrefix, bind, Except.bind, pure, Except.pure]

namespace Aux

def sevBody (st : List Str) (score : Option Rat) : Py.M (List Str) := (do
    let severities := st
    let severities ← (if (score = some (mkRat (0) 1)) then (do
        let severities : List Str := severities ++ [c!"None"]
        pure severities) else (do
        let v1 ← Py.req score
        let severities ← (if (v1 ≤ (mkRat (39) 10)) then (do
            let severities : List Str := severities ++ [c!"Low"]
            pure severities) else (do
            let v2 ← Py.req score
            let severities ← (if (v2 ≤ (mkRat (69) 10)) then (do
                let severities : List Str := severities ++ [c!"Medium"]
                pure severities) else (do
                let v3 ← Py.req score
                let severities ← (if (v3 ≤ (mkRat (89) 10)) then (do
                    let severities : List Str := severities ++ [c!"High"]
                    pure severities) else (do
                    let severities : List Str := severities ++ [c!"Critical"]
                    pure severities))
                pure severities))
            pure severities))
        pure severities))
    pure severities)

theorem sev_step (acc : List Str) (x : Rat) : sevBody acc (some x) = .ok (acc ++ [Model.V3.sevOf x]) := by
  unfold sevBody Model.V3.sevOf
  simp only [Model.V3.r, Py.q0, Py.req, Option.some.injEq, bind, Except.bind, pure, Except.pure]
  by_cases b0 : x = 0
  · simp [b0]
  · by_cases b1 : x ≤ mkRat 39 10
    · simp [b0, b1]
    · by_cases b2 : x ≤ mkRat 69 10
      · simp [b0, b1, b2]
      · by_cases b3 : x ≤ mkRat 89 10 <;> simp [b0, b1, b2, b3]

end Aux

theorem severities_eq (self : Code3.Self) (b t e : Rat)
    (hb : self.base_score = some b) (ht : self.temporal_score = some t) (he : self.environmental_score = some e) :
    Code3.severities self = .ok [Model.V3.sevOf b, Model.V3.sevOf t, Model.V3.sevOf e] := by
  rw [Code3.severities, hb, ht, he]
  show List.foldlM Aux.sevBody [] [some b, some t, some e] = _
  simp only [List.foldlM_cons, List.foldlM_nil, Aux.sev_step, Py.ok_bind]
  rfl

theorem temporal_vector_eq (self : Code3.Self) (o : Model.V3.Obj) (h : o.metrics = self.metrics) :
    Code3.temporal_vector self = .ok o.temporalVector := by
  rw [Code3.temporal_vector, Model.V3.Obj.temporalVector, h]
  simp only [List.append_assoc]
  rfl

theorem environmental_vector_eq (self : Code3.Self) (o : Model.V3.Obj) (h : o.metrics = self.metrics) :
    Code3.environmental_vector self = .ok o.environmentalVector := by
  rw [Code3.environmental_vector, Model.V3.Obj.environmentalVector, h]
  simp only [List.append_assoc]
  rfl

def jOf : Model.JVal → Py.J
  | .str s => .str s
  | .num x => .num x

namespace Aux
open Cvss.Py (toOption_bind toOption_req)

theorem insert_jm_str (k s : Str) (d : Model.JObj) :
    insert k (Py.J.str s) (Py.jmap jOf d) = Py.jmap jOf (insert k (.str s) d) := Py.insert_jmap jOf k (.str s) d

theorem insert_jm_num (k : Str) (x : Rat) (d : Model.JObj) :
    insert k (Py.J.num x) (Py.jmap jOf d) = Py.jmap jOf (insert k (.num x) d) := Py.insert_jmap jOf k (.num x) d

abbrev asJsonBody (self : Code3.Self) : List (Str × Py.J) → Str → Py.M (List (Str × Py.J)) :=
  Py.jsonBody Gen.V3.jsonKeys (Code3.get_value_description self) Py.usM

theorem asJsonBody_fold (self : Code3.Self) (l : List Str) (d : Model.JObj) :
    (List.foldlM (asJsonBody self) (Py.jmap jOf d) l).toOption =
      (Model.addMetrics Gen.V3.jsonKeys (Model.V3.getDescription self.metrics) Model.us3 d l).map
        (Py.jmap jOf) :=
  Py.jsonBody_fold jOf (fun _ => rfl) (get_value_description_eq self) Py.usM_eq l d

/-- the text of `as_json`'s two optional groups, over what differs between them -/
def asJsonOpt (self : Code3.Self) (minimal : Bool) (group : List Str) (score : Option Rat) (scoreKey sevKey sev : Str)
    (data : List (Str × Py.J)) : Py.M (List (Str × Py.J)) := (do
  let b8 ← (do
      if (¬ (minimal = true)) then pure true else (do
          let d7 ← Py.req self.original_metrics
          pure (decide ((List.any group (fun metric => decide (Py.contains metric d7 = true))) = true))))
  (if (b8 = true) then (do
      let data ← List.foldlM (asJsonBody self) data group
      let v12 ← Py.req score
      let data : List (Str × Py.J) := Py.setitem scoreKey (Py.J.num v12) data
      let t13 ← Py.usM sev
      let data : List (Str × Py.J) := Py.setitem sevKey (Py.J.str t13) data
      pure data) else (do
      pure data)))

/-- the same followed by the rest of the function, as the translation nests it -/
def asJsonOptK {β : Type} (self : Code3.Self) (minimal : Bool) (group : List Str) (score : Option Rat)
    (scoreKey sevKey sev : Str) (data : List (Str × Py.J)) (k : List (Str × Py.J) → Py.M β) : Py.M β := (do
  let b8 ← (do
      if (¬ (minimal = true)) then pure true else (do
          let d7 ← Py.req self.original_metrics
          pure (decide ((List.any group (fun metric => decide (Py.contains metric d7 = true))) = true))))
  let data ← (if (b8 = true) then (do
      let data ← List.foldlM (asJsonBody self) data group
      let v12 ← Py.req score
      let data : List (Str × Py.J) := Py.setitem scoreKey (Py.J.num v12) data
      let t13 ← Py.usM sev
      let data : List (Str × Py.J) := Py.setitem sevKey (Py.J.str t13) data
      pure data) else (do
      pure data))
  k data)

theorem asJsonOptK_eq {β : Type} (self : Code3.Self) (minimal : Bool) (group : List Str) (score : Option Rat)
    (scoreKey sevKey sev : Str) (data : List (Str × Py.J)) (k : List (Str × Py.J) → Py.M β) :
    asJsonOptK self minimal group score scoreKey sevKey sev data k =
      asJsonOpt self minimal group score scoreKey sevKey sev data >>= k := by
  unfold asJsonOptK asJsonOpt
  rw [bind_assoc]

/-- the model's optional group of `asJson3` -/
def mOpt (m orig : List (Str × Str)) (minimal : Bool) (group : List Str) (x : Rat) (scoreKey sevKey sev : Str)
    (d : Model.JObj) : Option Model.JObj :=
  if (!minimal || group.any (fun k => hasKey k orig)) = true then
    (Model.addMetrics Gen.V3.jsonKeys (Model.V3.getDescription m) Model.us3 d group).bind
      (fun d' => some (insert sevKey (.str (Model.us3 sev)) (insert scoreKey (.num x) d')))
  else some d

theorem asJsonOpt_eq (self : Code3.Self) (orig : List (Str × Str)) (ho : self.original_metrics = some orig)
    (minimal : Bool) (group : List Str) (x : Rat) (scoreKey sevKey sev : Str) (d : Model.JObj) :
    (asJsonOpt self minimal group (some x) scoreKey sevKey sev (Py.jmap jOf d)).toOption =
      (mOpt self.metrics orig minimal group x scoreKey sevKey sev d).map (Py.jmap jOf) := by
  unfold asJsonOpt mOpt
  cases minimal with
  | false =>
    simp only [Bool.false_eq_true, not_false_eq_true, if_true, Bool.not_false, Bool.true_or,
      toOption_bind, toOption_pure, Option.bind_some, asJsonBody_fold, toOption_req, Py.usM_eq, toOption_ok, Py.setitem]
    cases Model.addMetrics Gen.V3.jsonKeys (Model.V3.getDescription self.metrics) Model.us3 d group with
    | none => rfl
    | some d' => simp only [Option.map_some, Option.bind_some, insert_jm_num, insert_jm_str]
  | true =>
    simp only [not_true_eq_false, if_false, Bool.not_true, Bool.false_or, ho, Py.contains,
      toOption_bind, toOption_pure, Option.bind_some, toOption_req, Bool.decide_eq_true]
    cases List.any group (fun k => hasKey k orig) with
    | false => rfl
    | true =>
      simp only [if_true, toOption_bind, toOption_pure, Option.bind_some, asJsonBody_fold, toOption_req, Py.usM_eq,
        toOption_ok, Py.setitem]
      cases Model.addMetrics Gen.V3.jsonKeys (Model.V3.getDescription self.metrics) Model.us3 d group with
      | none => rfl
      | some d' => simp only [Option.map_some, Option.bind_some, insert_jm_num, insert_jm_str]

theorem asJson3_alt (o : Model.V3.Obj) (sort minimal : Bool) :
    Model.asJson3 o sort minimal =
      (Model.addMetrics Gen.V3.jsonKeys (Model.V3.getDescription o.metrics) Model.us3
        [(c!"version", .str (c!"3." ++ natToStr o.minor)), (c!"vectorString", .str o.vector)]
        Gen.V3.mandatory).bind fun d1 =>
      (mOpt o.metrics o.orig minimal Gen.V3.temporal o.temporal c!"temporalScore" c!"temporalSeverity"
        (Model.V3.sevOf o.temporal)
        (insert c!"baseSeverity" (.str (Model.us3 (Model.V3.sevOf o.base))) (insert c!"baseScore" (.num o.base) d1))).bind
      fun d2 =>
      (mOpt o.metrics o.orig minimal Gen.V3.environmental o.env c!"environmentalScore" c!"environmentalSeverity"
        (Model.V3.sevOf o.env) d2).bind fun d3 =>
      some (if sort = true then Model.sortObj d3 else d3) := by
  unfold Model.asJson3 mOpt
  simp only [Option.bind_eq_bind, Option.pure_def, Py.ite_bind, Option.bind_assoc, Option.bind_some]

theorem as_json_unfold (self : Code3.Self) (sort minimal : Bool) :
    Code3.as_json self sort minimal = (do
      let t1 ← Code3.severities self
      let (base_severity, temporal_severity, environmental_severity) ← Py.unpack3 t1
      let data ← List.foldlM (asJsonBody self)
        ([(c!"version", (Py.J.str (c!"3." ++ (Py.strOInt self.minor_version)))), (c!"vectorString", (Py.J.str self.vector))] : List (Str × Py.J))
        Gen.V3.mandatory
      let v5 ← Py.req self.base_score
      let data : List (Str × Py.J) := Py.setitem c!"baseScore" (Py.J.num v5) data
      let t6 ← Py.usM base_severity
      let data : List (Str × Py.J) := Py.setitem c!"baseSeverity" (Py.J.str t6) data
      asJsonOptK self minimal Gen.V3.temporal self.temporal_score c!"temporalScore" c!"temporalSeverity"
        temporal_severity data fun data =>
      asJsonOptK self minimal Gen.V3.environmental self.environmental_score c!"environmentalScore"
        c!"environmentalSeverity" environmental_severity data fun data => do
      let data ← (if (sort = true) then (do
          let data : List (Str × Py.J) := (Py.sortedItems data)
          pure data) else (do
          pure data))
      pure data) := by
  unfold Code3.as_json; rfl

end Aux

theorem as_json_eq (self : Code3.Self) (o : Model.V3.Obj) (sort minimal : Bool)
    (hv : o.vector = self.vector) (hmi : self.minor_version = some (o.minor : Int))
    (ho : self.original_metrics = some o.orig) (hm : o.metrics = self.metrics)
    (hb : self.base_score = some o.base) (ht : self.temporal_score = some o.temporal)
    (he : self.environmental_score = some o.env) :
    (Code3.as_json self sort minimal).toOption =
      (Model.asJson3 o sort minimal).map (List.map (fun kv => (kv.1, jOf kv.2))) := by
  rw [Aux.as_json_unfold, severities_eq self _ _ _ hb ht he, Aux.asJson3_alt, hb, ht, he, hmi, hv, hm]
  simp only [Py.ok_bind, Py.unpack3, Aux.strOInt_nat, Aux.asJsonOptK_eq]
  refine Py.toOption_bind_map (Aux.asJsonBody_fold self _
    [(c!"version", .str (c!"3." ++ natToStr o.minor)), (c!"vectorString", .str self.vector)]) fun d1 => ?_
  simp only [Py.req, Py.usM_eq, Py.ok_bind, Py.setitem, Aux.insert_jm_num, Aux.insert_jm_str]
  refine Py.toOption_bind_map (Aux.asJsonOpt_eq self o.orig ho minimal _ _ _ _ _ _) fun d2 => ?_
  refine Py.toOption_bind_map (Aux.asJsonOpt_eq self o.orig ho minimal _ _ _ _ _ _) fun d3 => ?_
  cases sort
  · rfl
  · simp only [if_true, Py.sortedItems_jmap]
    rfl

theorem scores_eq (self : Code3.Self) (b t e : Rat) (hb : self.base_score = some b)
    (ht : self.temporal_score = some t) (he : self.environmental_score = some e) :
    Code3.scores self = .ok [b, t, e] := by
  rw [Code3.scores, hb, ht, he]
  rfl

theorem scores_eq_model (self : Code3.Self) (o : Model.V3.Obj) (hb : self.base_score = some o.base)
    (ht : self.temporal_score = some o.temporal) (he : self.environmental_score = some o.env) :
    (Code3.scores self).map (List.map some) = .ok o.scores := by
  rw [scores_eq self _ _ _ hb ht he]; rfl

theorem eq_eq (self o : Code3.Self) (a b : Str) (ha : Code3.clean_vector self true = .ok a) (hb : Code3.clean_vector o true = .ok b) :
    Code3.__eq__ self o = .ok (decide (a = b)) := by
  rw [Code3.__eq__, ha, hb]
  rfl

theorem hash_eq (self : Code3.Self) (a : Str) (ha : Code3.clean_vector self true = .ok a) :
    Code3.__hash__ self = .ok a := by
  rw [Code3.__hash__, ha]
  rfl

theorem eq_hash (self o : Code3.Self) (a b : Str) (ha : Code3.clean_vector self true = .ok a) (hb : Code3.clean_vector o true = .ok b)
    (h : Code3.__eq__ self o = .ok true) : Code3.__hash__ self = Code3.__hash__ o := by
  rw [eq_eq self o a b ha hb] at h
  have : a = b := by simpa using h
  rw [hash_eq self a ha, hash_eq o b hb, this]

section
open Cvss.Model

def rhSpec (text : Str) : Except Err V3.Obj :=
  match splitFirst '/' text with
  | none => .error .rhMalformed
  | some (score, baseVector) =>
    match Float.parseFloat score with
    | none => .error .rhMalformed
    | some fv =>
      match V3.construct baseVector with
      | .error e => .error e
      | .ok o => if Float.eqScore o.base fv then .ok o else .error .rhMismatch

namespace Aux

theorem rhSpec_eq (text : Str) : rhSpec text = Py.rhSpecOf V3.construct V3.Obj.base text := by
  unfold rhSpec Py.rhSpecOf
  cases splitFirst '/' text with
  | none => rfl
  | some p =>
    obtain ⟨score, bv⟩ := p
    dsimp only
    cases Float.parseFloat score with
    | none => rfl
    | some fv =>
      dsimp only
      cases V3.construct bv <;> rfl

end Aux

theorem rhSpec_eq_model (text : Str) : (rhSpec text).map AnyObj.o3 = fromRh .v3 text := by
  rw [Aux.rhSpec_eq]
  exact Py.rhSpecOf_map .v3 V3.construct V3.Obj.base AnyObj.o3 (fun _ => rfl) (fun _ => rfl) text

theorem from_rh_vector_eq (text : Str) :
    ((Code3.from_rh_vector text).mapError Py.Exc.toErr).map
        (fun x => (x.vector, x.minor_version, x.original_metrics, x.metrics, x.base_score, x.temporal_score,
                   x.environmental_score)) =
      (rhSpec text).map
        (fun o => (o.vector, some (o.minor : Int), some o.orig, o.metrics, some o.base, some o.temporal, some o.env)) := by
  rw [Py.sim_iff_map_eq, Aux.rhSpec_eq]
  refine Py.fromRh_sim (construct := Code3.construct) (scores := Code3.scores) (w := some) (base := V3.Obj.base)
    (fun b => Py.sim_iff_map_eq.1 (construct_eq b)) ?_ text
  · intro x o h
    simp only [Prod.mk.injEq] at h
    exact ⟨_, _, scores_eq x _ _ _ h.2.2.2.2.1 h.2.2.2.2.2.1 h.2.2.2.2.2.2, rfl⟩

theorem rh_vector_eq (self : Code3.Self) (o : V3.Obj) (hmi : self.minor_version = some (o.minor : Int))
    (ho : self.original_metrics = some o.orig) (hb : self.base_score = some o.base)
    (ht : self.temporal_score = some o.temporal) (he : self.environmental_score = some o.env) :
    Code3.rh_vector self = .ok (AnyObj.rh (.o3 o)) := by
  rw [Code3.rh_vector, scores_eq self _ _ _ hb ht he, clean_vector_eq self o.orig o.minor true ho hmi]
  exact congrArg Except.ok (Py.strScore_slash _ _)

end

end Cvss.Props.CodeTie3
