/-
  Source tie, CVSS4, continued: the whole constructor and the Red Hat notation, which wraps it.
-/
import Cvss.Props.CodeTie4
namespace Cvss.Props.CodeTie4
open Cvss Cvss.Gen

-- (this file's helpers; `Aux`, reopened below for `rhSpec_eq`, is `CodeTie4.lean`'s)
namespace Aux2

def Foreign {α : Type} (x : Py.M α) : Prop := ∀ e, x = .error e → e.toErr = .foreign

theorem Foreign.finite (a : Option Rat) : Foreign (Py.finite a) := Py.Foreign.finite a

theorem Foreign.final_rounding (x : Option Rat) : Foreign (Code4.final_rounding x) := by
  show Py.Foreign _
  unfold Code4.final_rounding
  foreign []

theorem Foreign.macroVector (self : Code4.Self) : Foreign (Code4.macroVector self) := by
  cases h : Model.V4.macroVector self.metrics with
  | none =>
    obtain ⟨s, hs, _⟩ := macroVector_none self h
    exact Py.Foreign.of_ok hs
  | some d => exact Py.Foreign.of_ok (macroVector_eq self d h)

abbrev key (x : Code4.Self) : Str × List (Str × Str) × List (Str × Str) :=
  (x.vector, x.metrics, x.original_metrics)

def Keeps (k : Str × List (Str × Str) × List (Str × Str)) (m : Py.M Code4.Self) : Prop :=
  ∀ x, m = .ok x → key x = k

theorem Keeps.raise {k : Str × List (Str × Str) × List (Str × Str)} {e : Py.Exc} : Keeps k (Py.raise e) := by
  intro x hx
  cases hx

/-- `__init__` after `check_mandatory()` -/
theorem init_rest_view (x : Code4.Self) :
    Py.view (Code4.add_missing_optional x >>= fun y =>
        Code4.compute_base_score y >>= fun z => Code4.compute_severity z) =
      Py.ofOption ((Model.V4.build x.vector x.metrics).map fun o =>
        { x with original_metrics := o.orig, metrics := o.metrics, base_score := some o.base,
                 severity := some o.severity }) := by
  have hamo : Py.Foreign (Code4.add_missing_optional x) := by
    unfold Code4.add_missing_optional
    foreign []
  refine Py.view_bind_map_into (Py.view_eq_ofOption (Aux.add_missing_optional_state x) hamo) fun m1 => ?_
  refine Py.view_bind_map_into (Aux.compute_base_score_view _) fun b => ?_
  rw [Aux.compute_severity_state _ b rfl]
  rfl

theorem construct_bind (s : Str) :
    Model.V4.construct s =
      Model.parseWithPrefix Model.V4.tables [Model.V4.pfx] s >>= fun r =>
        Model.checkMandatory Model.V4.tables r.2 >>= fun _ => Py.ofOption (Model.V4.build s r.2) := by
  unfold Model.V4.construct Model.V4.parse
  cases Model.parseWithPrefix Model.V4.tables [Model.V4.pfx] s with
  | error e => rfl
  | ok r =>
    simp only [Py.ok_bind]
    cases Model.checkMandatory Model.V4.tables r.2 with
    | error e => rfl
    | ok u =>
      simp only [Py.ok_bind]
      cases Model.V4.build s r.2 <;> rfl

end Aux2

/-- (`Aux.compute_base_score_state` says more: it changes nothing but the score) -/
theorem compute_base_score_frame (self x : Code4.Self) (h : Code4.compute_base_score self = .ok x) :
    x.vector = self.vector ∧ x.metrics = self.metrics ∧ x.original_metrics = self.original_metrics := by
  have hs := Aux.compute_base_score_state self
  rw [h] at hs
  cases hb : Model.V4.baseScore self.metrics with
  | none =>
    rw [hb] at hs
    cases hs
  | some b =>
    rw [hb] at hs
    cases hs
    exact ⟨rfl, rfl, rfl⟩

theorem compute_base_score_error (self : Code4.Self) (e : Py.Exc)
    (h : Code4.compute_base_score self = .error e) : e.toErr = .foreign :=
  Py.Foreign.of_view (Aux.compute_base_score_view self) e h

/-- the whole constructor, for every string: the same exception class, or the same vector, original and filled-in
    metric dicts, score and rating -/
theorem construct_eq (s : Str) :
    ((Code4.construct s).mapError Py.Exc.toErr).map
        (fun x => (x.vector, x.original_metrics, x.metrics, x.base_score, x.severity)) =
      (Model.V4.construct s).map
        (fun o => (o.vector, o.orig, o.metrics, some o.base, some o.severity)) := by
  -- (by `rfl`: the one place where `__init__`'s own statements - attribute resets, order of the calls - are checked)
  have hinit : Code4.construct s =
      Code4.parse_vector (Code4.initSelf s []) >>= fun x => Code4.check_mandatory x >>= fun _ =>
        Code4.add_missing_optional x >>= fun y =>
          Code4.compute_base_score y >>= fun z => Code4.compute_severity z := rfl
  rw [Py.sim_iff_map_eq, hinit, Aux2.construct_bind, Py.mapError_bind]
  refine Py.Sim.bind (Py.sim_iff_map_eq.1 (parse_vector_eq (Code4.initSelf s []) rfl)) ?_
  intro x r hxr
  obtain ⟨hv, hm⟩ := Prod.mk.inj hxr
  change x.vector = s at hv
  rw [Py.mapError_bind, check_mandatory_eq, hm]
  refine Py.Sim.bind Py.Sim.of_eq ?_
  intro _ _ _
  rw [← Py.view, Aux2.init_rest_view x, hv, hm]
  unfold Model.V4.build
  cases Model.V4.fillModified r.2 Model.V4.modifiedMetrics with
  | none => rfl
  | some m1 =>
    cases hb : Model.V4.baseScore (Model.V4.fillDefaults m1 Model.V4.defaultedMetrics) <;>
      simp [Py.Sim, Py.ofOption, hb]

open Cvss.Model

def rhSpec (text : Str) : Except Err V4.Obj :=
  match splitFirst '/' text with
  | none => .error .rhMalformed
  | some (score, baseVector) =>
    match Float.parseFloat score with
    | none => .error .rhMalformed
    | some fv =>
      match V4.construct baseVector with
      | .error e => .error e
      | .ok o => if Float.eqScore o.base fv then .ok o else .error .rhMismatch

namespace Aux

theorem rhSpec_eq (text : Str) : rhSpec text = Py.rhSpecOf V4.construct V4.Obj.base text := by
  unfold rhSpec Py.rhSpecOf
  cases splitFirst '/' text with
  | none => rfl
  | some p =>
    obtain ⟨score, bv⟩ := p
    dsimp only
    cases Float.parseFloat score with
    | none => rfl
    | some fv =>
      dsimp only
      cases V4.construct bv <;> rfl

end Aux

theorem rhSpec_eq_model (text : Str) : (rhSpec text).map AnyObj.o4 = fromRh .v4 text := by
  rw [Aux.rhSpec_eq]
  exact Py.rhSpecOf_map .v4 V4.construct V4.Obj.base AnyObj.o4 (fun _ => rfl) (fun _ => rfl) text

theorem from_rh_vector_eq (text : Str) :
    ((Code4.from_rh_vector text).mapError Py.Exc.toErr).map
        (fun x => (x.vector, x.original_metrics, x.metrics, x.base_score, x.severity)) =
      (rhSpec text).map
        (fun o => (o.vector, o.orig, o.metrics, some o.base, some o.severity)) := by
  rw [Py.sim_iff_map_eq, Aux.rhSpec_eq]
  refine Py.fromRh_sim (construct := Code4.construct) (scores := Code4.scores) (w := id) (base := V4.Obj.base)
    (fun b => Py.sim_iff_map_eq.1 (construct_eq b)) ?_ text
  · intro x o h
    simp only [Prod.mk.injEq] at h
    exact ⟨_, _, scores_eq x, h.2.2.2.1⟩

theorem rh_vector_eq (self : Code4.Self) (o : V4.Obj) (ho : self.original_metrics = o.orig) (hb : self.base_score = some o.base) :
    Code4.rh_vector self = .ok (AnyObj.rh (.o4 o)) := by
  rw [Code4.rh_vector, clean_vector_eq, hb, ho]
  exact congrArg Except.ok (Py.strScore_slash _ _)

end Cvss.Props.CodeTie4
