/-
  C04 — final, constructor-level statements (parser theorems of C04.lean + totality of scoring from
  C01, C02, C03): acceptance is exactly the grammar, which errors can occur, no foreign exception.
-/
import Cvss.Lemmas.Construct
namespace Cvss.Props.C04
open Cvss Cvss.Model Cvss.Spec.Grammar Cvss.Lemmas.Construct

theorem v2_construct_accepts_iff (s : Str) : (∃ o, V2.construct s = .ok o) ↔ Accepts g2 s := by
  rw [← v2_parse_ok_iff]
  exact exists_ok_congr (v2_construct_error_iff s)

theorem v3_construct_accepts_iff (s : Str) : (∃ o, V3.construct s = .ok o) ↔ Accepts g3 s := by
  rw [← v3_parse_ok_iff]
  exact exists_ok_congr (v3_construct_error_iff s)

theorem v4_construct_accepts_iff (s : Str) : (∃ o, V4.construct s = .ok o) ↔ Accepts g4 s := by
  rw [← v4_parse_ok_iff]
  exact exists_ok_congr (v4_construct_error_iff s)

theorem v2_construct_mandatory_iff (s : Str) : V2.construct s = .error .mandatory ↔ LacksMandatory g2 s := by
  rw [v2_construct_error_iff, v2_parse_mandatory_iff]

theorem v3_construct_mandatory_iff (s : Str) : V3.construct s = .error .mandatory ↔ LacksMandatory g3 s := by
  rw [v3_construct_error_iff, v3_parse_mandatory_iff]

theorem v4_construct_mandatory_iff (s : Str) : V4.construct s = .error .mandatory ↔ LacksMandatory g4 s := by
  rw [v4_construct_error_iff, v4_parse_mandatory_iff]

theorem construct_outcomes (v : Ver) (s : Str) :
    (∃ o, construct v s = .ok o) ∨ construct v s = .error .malformed ∨ construct v s = .error .mandatory := by
  cases hc : construct v s with
  | ok o => exact Or.inl ⟨o, rfl⟩
  | error e => rcases construct_error hc with rfl | rfl <;> simp

theorem no_foreign_exception (v : Ver) (s : Str) : construct v s ≠ .error .foreign :=
  construct_never_foreign v s

end Cvss.Props.C04
