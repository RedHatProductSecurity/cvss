/-
  C02 — pins of the generated `MAX_SEVERITY` and `MAX_COMPOSED` tables to the specification's depths and
  highest-severity vectors (the pin of `CVSS_LOOKUP_GLOBAL` is `lookup_pinned` in `Props/C02.lean`).  A file of
  its own, so that `Lemmas/V4Search.lean`, which `Props/C02.lean` imports, can import the pins.
-/
import Cvss.Gen.V4
import Cvss.Spec.V4
namespace Cvss.Props.C02
open Cvss

/-! The tables pinned here list their entries in the order of the Python dict literals.  That order
  is unobservable (every access to them is a look-up by key), so the pins do not depend on it: each one says
  that no key occurs twice and that the entries are the specification's entries UP TO THEIR ORDER
  (`List.Perm`).  By `Cvss.lookup_perm` this gives equal look-up results for every key. -/

/-- pinning: the entries `eq1`, `eq2`, `eq3eq6`, `eq4` of `MAX_SEVERITY` are the specification's depth tables (distinct
    keys, same entries up to order).  The entry `eq5` has no conjunct: `compute_base_score` does not read it. -/
theorem maxSeverity_pinned :
    ((keys Gen.V4.maxSeverityEq1).Nodup ∧
      Gen.V4.maxSeverityEq1.Perm ([0, 1, 2].map (fun i => (i, Spec.V4.depth1 i)))) ∧
    ((keys Gen.V4.maxSeverityEq2).Nodup ∧
      Gen.V4.maxSeverityEq2.Perm ([0, 1].map (fun i => (i, Spec.V4.depth2 i)))) ∧
    ((keys Gen.V4.maxSeverityEq36).Nodup ∧
      Gen.V4.maxSeverityEq36.Perm
        ([(0, 0), (0, 1), (1, 0), (1, 1), (2, 1)].map (fun p => (p, Spec.V4.depth36 p.1 p.2)))) ∧
    ((keys Gen.V4.maxSeverityEq4).Nodup ∧
      Gen.V4.maxSeverityEq4.Perm ([0, 1, 2].map (fun i => (i, Spec.V4.depth4 i)))) := by
  decide +kernel

/-- pinning: the entries `eq1`, `eq2`, `eq3`, `eq4` of `MAX_COMPOSED`, as the library reads them through
    `extract_value_metric`, are the specification's lists of highest-severity vectors (distinct keys, same entries
    up to order; the list of vectors of one entry is pinned in its order).  The entry `eq5` has no conjunct here:
    what `compute_base_score` reads of it is `Lemmas.V4Search.maxEq5_lookup`.  Last conjunct: the translator found
    no vector on which the library's substring extraction misreads a value. -/
theorem maxComposed_pinned :
    ((keys Gen.V4.maxEq1).Nodup ∧
      Gen.V4.maxEq1.Perm ([0, 1, 2].map (fun i => (natToStr i, Spec.V4.max1 i)))) ∧
    ((keys Gen.V4.maxEq2).Nodup ∧
      Gen.V4.maxEq2.Perm ([0, 1].map (fun i => (natToStr i, Spec.V4.max2 i)))) ∧
    ((keys Gen.V4.maxEq36).Nodup ∧
      Gen.V4.maxEq36.Perm ([(0, 0), (0, 1), (1, 0), (1, 1), (2, 1)].map
        (fun p => (natToStr p.1 ++ natToStr p.2, Spec.V4.max36 p.1 p.2)))) ∧
    ((keys Gen.V4.maxEq4).Nodup ∧
      Gen.V4.maxEq4.Perm ([0, 1, 2].map (fun i => (natToStr i, Spec.V4.max4 i)))) ∧
    Gen.V4.maxComposedExtractionMismatches = 0 := by
  refine ⟨?_, ?_, ?_, ?_, ?_⟩ <;> decide +kernel

end Cvss.Props.C02
