/-
  C08 at constructor level: clean vectors are accepted by the own constructor and match their version's
  pattern; the builder's result is accepted (no pattern is stated for it).
-/
import Cvss.Props.C08
import Cvss.Props.C07
import Cvss.Props.C04Final
import Cvss.Props.C16
import Cvss.Lemmas.Rh
import Cvss.Lemmas.RegexV4
namespace Cvss.Props.C08
open Cvss Cvss.Model Cvss.Spec Cvss.Spec.Regex

theorem v2_clean_valid (s : Str) (o : V2.Obj) (h : V2.construct s = .ok o) :
    (∃ o', V2.construct o.clean = .ok o') ∧ Matches pattern20 o.clean := by
  obtain ⟨o', ho', -⟩ := C07.v2_clean_roundtrip s o h
  exact ⟨⟨o', ho'⟩, v2_accepted_matches _ ((C04.v2_construct_accepts_iff _).1 ⟨o', ho'⟩)⟩

theorem v3_clean_valid (s : Str) (o : V3.Obj) (h : V3.construct s = .ok o) :
    (∃ o', V3.construct (o.clean true) = .ok o') ∧
      Matches (if o.minor = 0 then pattern30 else pattern31) (o.clean true) := by
  obtain ⟨o', ho', -⟩ := C07.v3_clean_roundtrip s o h
  have hacc := (C04.v3_construct_accepts_iff _).1 ⟨o', ho'⟩
  have hi : o.minor = 0 ∨ o.minor = 1 := (construct_spec (toVer3 h)).minorOk
  have hcl : V3.versionPrefix o.minor <+: o.clean true := ⟨_, ((AnyObj.o3 o).clean_eq true).symm⟩
  refine ⟨⟨o', ho'⟩, ?_⟩
  rcases hi with hi | hi
  · rw [hi] at hcl
    rw [if_pos hi]
    exact v30_accepted_matches _ hacc hcl
  · rw [hi] at hcl
    rw [if_neg (by omega)]
    exact v31_accepted_matches _ hacc hcl

/-- v4.0: the official pattern fixes the field order Base, Threat, Environmental, Supplemental; the CLEAN
    vector of every parsed metric map conforms (an accepted input in another order does not, and need not) -/
theorem v4_clean_matches (s : Str) (m : MMap) (h : V4.parse s = .ok m) : Matches pattern40 (V4.cleanOf m true) := by
  obtain ⟨-, acc⟩ := (C04.v4_parse_iff s m).1 h
  obtain ⟨acc', -⟩ := Accepted.canonical (v := .v4) acc
  rw [C07.clean_v4, if_pos rfl, C07.definedPairs_eq]
  apply listing_matches
  · intro k v hkv
    exact (acc.legal (k, v) (lookup_mem (C07.defVal_eq_some_iff.1 hkv).1)).2.1
  · intro k hk
    obtain ⟨v, hv⟩ := lookup_of_mem_keys (acc'.mandatory k hk)
    exact ⟨v, C07.defVal_eq_some_iff.2 ((C07.mem_definedPairs _ _ _ _ _).1 (lookup_mem hv)).2⟩

/-- the pattern accepts the official order and rejects a Supplemental metric before a Threat metric -/
example : fullMatch pattern40 c!"CVSS:4.0/AV:N/AC:L/AT:N/PR:N/UI:N/VC:H/VI:H/VA:H/SC:H/SI:H/SA:H/E:P/CR:L/MAV:A/S:P/U:Red" = true := by
  decide +kernel
example : fullMatch pattern40 c!"CVSS:4.0/AV:N/AC:L/AT:N/PR:N/UI:N/VC:H/VI:H/VA:H/SC:H/SI:H/SA:H/S:P/E:P" = false := by
  decide +kernel

theorem v4_clean_valid (s : Str) (o : V4.Obj) (h : V4.construct s = .ok o) :
    (∃ o', V4.construct (o.clean true) = .ok o') ∧ Matches pattern40 (o.clean true) := by
  obtain ⟨o', ho', -⟩ := C07.v4_clean_roundtrip s o h
  have c := construct_spec (toVer4 h)
  exact ⟨⟨o', ho'⟩, v4_clean_matches s o.orig ((C04.v4_parse_iff _ _).2 ⟨c.render, c.accepted⟩)⟩

theorem rh_vector_part (o : AnyObj) : ∃ score, o.rh = score ++ '/' :: o.clean ∧ '/' ∉ score :=
  ⟨showScore o.base, rfl, Lemmas.Rh.showScore_no_slash o.base⟩

theorem ask_result_constructs (v : Interactive.IVer) (allMetrics : Bool) (answers : List Str) (vec : Str) (n : Nat)
    (trace : List (Str × Nat)) (h : Interactive.ask v allMetrics answers = .result vec n trace) :
    ∃ o, construct (match v with | .i2 => Ver.v2 | .i4 => Ver.v4 | _ => Ver.v3) vec = .ok o := by
  have key : ∀ {g : Grammar.G} (w : Ver) (i : Nat), C16.Agree v w.tables → C04.Pinned w.tables g →
      w.minorOk i → Interactive.prefixOf v = w.pfx i → ∃ o, construct w vec = .ok o := by
    intro g w i hA hP hi hp
    obtain ⟨acc, rfl, -, hacc⟩ := C16.ask_result_accepted hA hP h
    obtain ⟨a, ha, -⟩ := construct_of_accepted hacc hi
    exact ⟨a, hp ▸ ha⟩
  cases v with
  | i2 => exact key .v2 0 C16.agree2 C04.pinned2 rfl rfl
  | i30 => exact key .v3 0 C16.agree30 C04.pinned3 (.inl rfl) rfl
  | i31 => exact key .v3 1 C16.agree31 C04.pinned3 (.inr rfl) rfl
  | i4 => exact key .v4 0 C16.agree4 C04.pinned4 rfl rfl

end Cvss.Props.C08
