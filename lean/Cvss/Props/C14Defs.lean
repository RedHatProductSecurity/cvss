/-
  C14 — the definitions the monotonicity statements are about.
-/
import Cvss.Basic
import Cvss.Spec.V2
import Cvss.Spec.V3
namespace Cvss.Props.C14
open Cvss

/-- weights are non-decreasing along each metric's severity order (least → most severe) -/
def monotoneRow (tbl : List (Str × List (Str × Option Rat))) (m : Str) (order : List Str) : Bool :=
  match lookup m tbl with
  | none => false
  | some row =>
    let ws := order.map (fun v => match lookup v row with | some (some w) => some w | _ => none)
    ws.all Option.isSome &&
    (ws.zip (ws.drop 1)).all (fun (a, b) => match a, b with | some x, some y => decide (x ≤ y) | _, _ => false)

def upd (a : Str → Str) (k v : Str) : Str → Str := fun j => if j = k then v else a j

def Legal2 (a : Str → Str) : Prop := ∀ p ∈ Spec.V2.weights, (lookup (a p.1) p.2).isSome

/-- single severity steps of the v2 base metrics, least → most severe -/
def steps2base : List (Str × Str × Str) :=
  [(c!"AV", c!"L", c!"A"), (c!"AV", c!"A", c!"N"), (c!"AC", c!"H", c!"M"), (c!"AC", c!"M", c!"L"),
   (c!"Au", c!"M", c!"S"), (c!"Au", c!"S", c!"N"), (c!"C", c!"N", c!"P"), (c!"C", c!"P", c!"C"),
   (c!"I", c!"N", c!"P"), (c!"I", c!"P", c!"C"), (c!"A", c!"N", c!"P"), (c!"A", c!"P", c!"C")]

/-- single severity steps of the v2 temporal metrics; ND counts as its equivalent (E:H, RL:U, RC:C), so ND is at the top -/
def steps2temporal : List (Str × Str × Str) :=
  [(c!"E", c!"U", c!"POC"), (c!"E", c!"POC", c!"F"), (c!"E", c!"F", c!"H"), (c!"E", c!"F", c!"ND"),
   (c!"RL", c!"OF", c!"TF"), (c!"RL", c!"TF", c!"W"), (c!"RL", c!"W", c!"U"), (c!"RL", c!"W", c!"ND"),
   (c!"RC", c!"UC", c!"UR"), (c!"RC", c!"UR", c!"C"), (c!"RC", c!"UR", c!"ND")]

/-- order on optional scores used for "never lowers a score": compared only when both are defined
    (so not transitive: everything is below and above `none`) -/
def leOpt (x y : Option Rat) : Prop := ∀ u v, x = some u → y = some v → u ≤ v

/-- not derived from the parser's `Accepted`: that bridge to constructed objects is not proved (cf. the
    note in `Props/C14.lean`) -/
def Legal3 (a : Str → Str) : Prop :=
  (∀ p ∈ Spec.V3.weights, (lookup (a p.1) p.2).isSome) ∧
  (a c!"PR" = c!"N" ∨ a c!"PR" = c!"L" ∨ a c!"PR" = c!"H") ∧ (a c!"S" = c!"U" ∨ a c!"S" = c!"C") ∧
  (∀ M ∈ [c!"MAV", c!"MAC", c!"MUI", c!"MC", c!"MI", c!"MA"],
      a M = c!"X" ∨ (lookup (a M) ((lookup (M.drop 1) Spec.V3.weights).getD [])).isSome) ∧
  (a c!"MPR" = c!"X" ∨ a c!"MPR" = c!"N" ∨ a c!"MPR" = c!"L" ∨ a c!"MPR" = c!"H") ∧
  (a c!"MS" = c!"X" ∨ a c!"MS" = c!"U" ∨ a c!"MS" = c!"C")

def steps3base : List (Str × Str × Str) :=
  [(c!"AV", c!"P", c!"L"), (c!"AV", c!"L", c!"A"), (c!"AV", c!"A", c!"N"), (c!"AC", c!"H", c!"L"),
   (c!"PR", c!"H", c!"L"), (c!"PR", c!"L", c!"N"), (c!"UI", c!"R", c!"N"), (c!"S", c!"U", c!"C"),
   (c!"C", c!"N", c!"L"), (c!"C", c!"L", c!"H"), (c!"I", c!"N", c!"L"), (c!"I", c!"L", c!"H"),
   (c!"A", c!"N", c!"L"), (c!"A", c!"L", c!"H")]

/-- X counts as its equivalent (E:H, RL:U, RC:C): X is at the top -/
def steps3temporal : List (Str × Str × Str) :=
  [(c!"E", c!"U", c!"P"), (c!"E", c!"P", c!"F"), (c!"E", c!"F", c!"H"), (c!"E", c!"F", c!"X"),
   (c!"RL", c!"O", c!"T"), (c!"RL", c!"T", c!"W"), (c!"RL", c!"W", c!"U"), (c!"RL", c!"W", c!"X"),
   (c!"RC", c!"U", c!"R"), (c!"RC", c!"R", c!"C"), (c!"RC", c!"R", c!"X")]

/-- X counts as Medium -/
def steps3req : List (Str × Str × Str) :=
  [(c!"CR", c!"L", c!"M"), (c!"CR", c!"M", c!"H"), (c!"CR", c!"L", c!"X"), (c!"CR", c!"X", c!"H"),
   (c!"IR", c!"L", c!"M"), (c!"IR", c!"M", c!"H"), (c!"IR", c!"L", c!"X"), (c!"IR", c!"X", c!"H"),
   (c!"AR", c!"L", c!"M"), (c!"AR", c!"M", c!"H"), (c!"AR", c!"L", c!"X"), (c!"AR", c!"X", c!"H")]

/-- steps of the Modified metrics, on their EFFECTIVE value (an undefined Modified metric counts as
    its base metric's value): those of exploitability and scope, and (`steps3modImpact`) of impact -/
def steps3modExpl : List (Str × Str × Str) :=
  [(c!"MAV", c!"P", c!"L"), (c!"MAV", c!"L", c!"A"), (c!"MAV", c!"A", c!"N"), (c!"MAC", c!"H", c!"L"),
   (c!"MPR", c!"H", c!"L"), (c!"MPR", c!"L", c!"N"), (c!"MUI", c!"R", c!"N"), (c!"MS", c!"U", c!"C")]
def steps3modImpact : List (Str × Str × Str) :=
  [(c!"MC", c!"N", c!"L"), (c!"MC", c!"L", c!"H"), (c!"MI", c!"N", c!"L"), (c!"MI", c!"L", c!"H"),
   (c!"MA", c!"N", c!"L"), (c!"MA", c!"L", c!"H")]

end Cvss.Props.C14
