/-
  C12 — Red Hat notation round-trips and rejects mismatching scores.
-/
import Cvss.Props.C07
import Cvss.Props.C09
import Cvss.Lemmas.Rh
namespace Cvss.Props.C12
open Cvss Cvss.Model

/-- the binary64 value Python's `float` has for the score t/10 (`none`: overflow, which does not occur here) -/
abbrev b64 (t : Nat) : Option Rat := Float.toBinary64 ((t : Rat) / 10)

theorem parse_show : ∀ t ∈ List.range 101,
    Float.parseFloat (showScore ((t : Rat) / 10)) = some (.fin ((t : Rat) / 10)) := by
  decide +kernel

/-- evaluated, 101 roundings and 100 comparisons: binary64 rounding is strictly increasing along 0.0, 0.1, …, 10.0
    (the rounded values as rationals, an overflow counting as 0, which would break the chain) -/
theorem b64_chain : ((List.range 101).map fun t => (b64 t).getD 0).IsChain (· < ·) := by
  decide +kernel

/-- a strictly increasing list repeats no value -/
theorem b64_inj {t u : Nat} (ht : t ∈ List.range 101) (hu : u ∈ List.range 101) (h : b64 t = b64 u) : t = u :=
  List.inj_on_of_nodup_map b64_chain.pairwise.nodup ht hu (congrArg (·.getD 0) h)

/-- the printed score of every representable one-decimal value parses back to a number that equals it
    (as binary64 values) — and to no other representable score -/
theorem show_parse_roundtrip :
    ∀ t ∈ List.range 101, ∀ u ∈ List.range 101,
      ((Float.parseFloat (showScore ((t : Rat) / 10))).map (Float.eqScore ((u : Rat) / 10))) = some (decide (t = u)) := by
  intro t ht u hu
  rw [parse_show t ht, Option.map_some, Float.eqScore, beq_eq_decide,
    decide_eq_decide.2 ⟨b64_inj ht hu, fun h => h ▸ rfl⟩]

theorem rh_format (o : AnyObj) : o.rh = showScore o.base ++ '/' :: o.clean := rfl

/-- "the part before the first '/'": `split("/", 1)` -/
theorem splitFirst_iff (text a b : Str) :
    splitFirst '/' text = some (a, b) ↔ text = a ++ '/' :: b ∧ '/' ∉ a :=
  Lemmas.Rh.splitFirst_iff '/' text a b

def fromRhParts (v : Ver) (score vec : Str) : Except Err AnyObj :=
  match Float.parseFloat score with
  | none => .error .rhMalformed
  | some fv =>
    match construct v vec with
    | .error e => .error e
    | .ok o => if Float.eqScore o.base fv then .ok o else .error .rhMismatch

theorem fromRh_eq (v : Ver) (text : Str) :
    fromRh v text = match splitFirst '/' text with
      | none => .error .rhMalformed
      | some (score, vec) => fromRhParts v score vec := by
  unfold fromRh fromRhParts
  cases splitFirst '/' text <;> rfl

theorem fromRhParts_ok_iff (v : Ver) (score vec : Str) (o : AnyObj) :
    fromRhParts v score vec = .ok o ↔
      ∃ fv, Float.parseFloat score = some fv ∧ construct v vec = .ok o ∧ Float.eqScore o.base fv = true := by
  unfold fromRhParts
  cases Float.parseFloat score with
  | none => simp only [reduceCtorEq, false_and, exists_false]
  | some fv =>
    cases construct v vec with
    | error e => simp only [reduceCtorEq, Option.some.injEq, false_and, and_false, exists_false]
    | ok o' =>
      by_cases hq : Float.eqScore o'.base fv = true
      · simp only [hq, if_true, Except.ok.injEq, Option.some.injEq, exists_eq_left']
        exact ⟨fun h => ⟨h, h ▸ hq⟩, fun h => h.1⟩
      · simp only [hq, if_false, reduceCtorEq, Option.some.injEq, Except.ok.injEq, exists_eq_left', false_iff]
        rintro ⟨rfl, h⟩; exact hq h

theorem fromRhParts_error_iff (v : Ver) (score vec : Str) (e : Err) :
    fromRhParts v score vec = .error e ↔
      (e = .rhMalformed ∧ Float.parseFloat score = none) ∨
      ∃ fv, Float.parseFloat score = some fv ∧
        (construct v vec = .error e ∨
          (e = .rhMismatch ∧ ∃ o, construct v vec = .ok o ∧ Float.eqScore o.base fv = false)) := by
  unfold fromRhParts
  cases Float.parseFloat score with
  | none =>
    simp only [Except.error.injEq, reduceCtorEq, false_and, exists_false, or_false, and_true]
    exact eq_comm
  | some fv =>
    cases construct v vec with
    | error e' =>
      simp only [Except.error.injEq, reduceCtorEq, and_false, Option.some.injEq, false_and, exists_false, or_false,
        exists_and_right, ↓existsAndEq, true_and, false_or]
    | ok o =>
      by_cases hq : Float.eqScore o.base fv = true
      · simp only [hq, ↓reduceIte, reduceCtorEq, and_false, Option.some.injEq, Except.ok.injEq, exists_eq_left',
          false_or, Bool.true_eq_false, or_self]
      · simp only [hq, if_false, Except.error.injEq, reduceCtorEq, and_false, false_or, Option.some.injEq,
          Except.ok.injEq, exists_eq_left', and_true]
        exact eq_comm

/-- `from_rh_vector` returns an object exactly when the part before the first '/' parses as a number, the rest is
    accepted by the class, and the number equals the computed base score -/
theorem fromRh_ok_iff (v : Ver) (text : Str) (o : AnyObj) :
    fromRh v text = .ok o ↔
      ∃ score vec fv, text = score ++ '/' :: vec ∧ '/' ∉ score ∧ Float.parseFloat score = some fv ∧
        construct v vec = .ok o ∧ Float.eqScore o.base fv = true := by
  -- `text = score ++ '/' :: vec` with a '/'-free `score` says that `(score, vec)` is the split at the first '/'
  simp only [← and_assoc, ← splitFirst_iff, fromRh_eq]
  cases splitFirst '/' text with
  | none => simp only [reduceCtorEq, false_and, exists_false]
  | some p =>
    obtain ⟨sc, vec⟩ := p
    simp only [fromRhParts_ok_iff, Option.some.injEq, Prod.mk.injEq, and_assoc, exists_and_left, ↓existsAndEq,
      true_and, exists_eq_left']

/-- a missing or non-numeric score part gives the RH-malformed error, a differing score the score-mismatch error, and
    an invalid vector part the ordinary vector error of the constructor -/
theorem fromRh_error_iff (v : Ver) (text : Str) (e : Err) :
    fromRh v text = .error e ↔
      (e = .rhMalformed ∧ ('/' ∉ text ∨ ∃ score vec, text = score ++ '/' :: vec ∧ '/' ∉ score ∧ Float.parseFloat score = none)) ∨
      (∃ score vec fv, text = score ++ '/' :: vec ∧ '/' ∉ score ∧ Float.parseFloat score = some fv ∧
        ((construct v vec = .error e) ∨
         (e = .rhMismatch ∧ ∃ o, construct v vec = .ok o ∧ Float.eqScore o.base fv = false))) := by
  rw [← Lemmas.Rh.splitFirst_none_iff '/' text]
  simp only [← and_assoc, ← splitFirst_iff, fromRh_eq]
  cases splitFirst '/' text with
  | none =>
    simp only [Except.error.injEq, @eq_comm _ Err.rhMalformed e, reduceCtorEq, false_and, exists_const, or_false,
      and_true, exists_false]
  | some p =>
    obtain ⟨sc, vec⟩ := p
    simp only [fromRhParts_error_iff, reduceCtorEq, Option.some.injEq, Prod.mk.injEq, and_assoc, exists_and_left,
      ↓existsAndEq, true_and, exists_eq_left', false_or]

/-- `from_rh_vector(x.rh_vector())` succeeds and equals x, for the three classes.  The base score is a representable
    one-decimal score (`hr`: C01–C03 through C09), so its printed form parses back to it; the clean vector
    re-constructs to an equal object with the same base score (C07). -/
theorem rh_roundtrip {v : Ver} {s : Str} {a : AnyObj} (h : construct v s = .ok a)
    (hr : ∃ k : Nat, k ≤ 100 ∧ a.base = (k : Rat) / 10) :
    ∃ a', fromRh v a.rh = .ok a' ∧ a'.eq a = true := by
  obtain ⟨k, hk, hb⟩ := hr
  obtain ⟨a', ha', -, -, hsc, -, -, heq⟩ := C07.clean_roundtrip h
  have hb' : a'.base = a.base := AnyObj.base_eq_of_scores_eq hsc
  have hmem : k ∈ List.range 101 := List.mem_range.2 (by omega)
  refine ⟨a', (fromRh_ok_iff v a.rh a').2 ⟨showScore a.base, a.clean, .fin ((k : Rat) / 10), rfl, Lemmas.Rh.showScore_no_slash _, ?_, ha', ?_⟩, heq⟩
  · rw [hb]; exact parse_show k hmem
  · rw [hb', hb]; exact beq_self_eq_true _

theorem rh_roundtrip_v2 (s : Str) (o : V2.Obj) (h : V2.construct s = .ok o) :
    ∃ o', fromRh .v2 (AnyObj.o2 o).rh = .ok o' ∧ o'.eq (AnyObj.o2 o) = true :=
  rh_roundtrip (toVer2 h) (C09.v2_scores_wellformed s o h).1

theorem rh_roundtrip_v3 (s : Str) (o : V3.Obj) (h : V3.construct s = .ok o) :
    ∃ o', fromRh .v3 (AnyObj.o3 o).rh = .ok o' ∧ o'.eq (AnyObj.o3 o) = true :=
  rh_roundtrip (toVer3 h) (C09.v3_scores_wellformed s o h).1

theorem rh_roundtrip_v4 (s : Str) (o : V4.Obj) (h : V4.construct s = .ok o) :
    ∃ o', fromRh .v4 (AnyObj.o4 o).rh = .ok o' ∧ o'.eq (AnyObj.o4 o) = true :=
  rh_roundtrip (toVer4 h) (C09.v4_scores_wellformed s o h).1

end Cvss.Props.C12
