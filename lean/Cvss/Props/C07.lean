/-
  C07 — clean_vector() is a canonical form; equality and hash are consistent with it.
-/
import Cvss.Props.C05
namespace Cvss.Props.C07
open Cvss Cvss.Model Cvss.Lemmas.Invariance

theorem eq_true_iff (a b : AnyObj) : a.eq b = true ↔ a.ver = b.ver ∧ a.clean = b.clean := by
  simp only [AnyObj.eq, Bool.and_eq_true, decide_eq_true_eq]

theorem eq_refl (a : AnyObj) : a.eq a = true := (eq_true_iff a a).2 ⟨rfl, rfl⟩

theorem eq_symm (a b : AnyObj) (h : a.eq b = true) : b.eq a = true :=
  have h := (eq_true_iff a b).1 h
  (eq_true_iff b a).2 ⟨h.1.symm, h.2.symm⟩

theorem eq_trans (a b c : AnyObj) (h1 : a.eq b = true) (h2 : b.eq c = true) : a.eq c = true :=
  have h1 := (eq_true_iff a b).1 h1
  have h2 := (eq_true_iff b c).1 h2
  (eq_true_iff a c).2 ⟨h1.1.trans h2.1, h1.2.trans h2.2⟩

theorem eq_hash (a b : AnyObj) (h : a.eq b = true) : a.hashKey = b.hashKey := ((eq_true_iff a b).1 h).2

theorem eq_same_class (a b : AnyObj) (h : a.eq b = true) : a.ver = b.ver := ((eq_true_iff a b).1 h).1

/-- metric tables have no repeated abbreviation (so "once each" makes sense) -/
theorem abbrs_nodup : (keys Gen.V2.abbrs).Nodup ∧ (keys Gen.V3.abbrs).Nodup ∧ (keys Gen.V4.abbrs).Nodup :=
  ⟨C04.pinned2.nodup, C04.pinned3.nodup, C04.pinned4.nodup⟩

/-- the (metric, value) pairs that were given a DEFINED value, in table order -/
def definedPairs (abbrs : List Str) (nd : Str) (m : MMap) : MMap :=
  abbrs.filterMap (fun k => match lookup k m with
    | some v => if v ≠ nd then some (k, v) else none
    | none => none)

def defVal (nd : Str) (m : MMap) (k : Str) : Option Str :=
  match lookup k m with
  | some v => if v ≠ nd then some v else none
  | none => none

theorem defVal_eq_some_iff {nd : Str} {m : MMap} {k v : Str} :
    defVal nd m k = some v ↔ lookup k m = some v ∧ v ≠ nd := by
  unfold defVal
  cases lookup k m with
  | none => simp
  | some w =>
    simp only [Option.ite_none_right_eq_some, Option.some.injEq]
    exact ⟨fun ⟨h, e⟩ => ⟨e, e ▸ h⟩, fun ⟨e, h⟩ => ⟨e ▸ h, e⟩⟩

theorem assignment_eq_defVal (nd : Str) (m : MMap) (k : Str) : assignment nd m k = (defVal nd m k).getD nd := by
  unfold assignment defVal
  cases lookup k m with
  | none => rfl
  | some w => by_cases hw : w = nd <;> simp [hw]

theorem definedPairs_eq (abbrs : List Str) (nd : Str) (m : MMap) :
    definedPairs abbrs nd m = abbrs.filterMap (fun k => (defVal nd m k).map (fun v => (k, v))) := by
  unfold definedPairs defVal
  congr 1
  funext k
  cases lookup k m with
  | none => rfl
  | some v => by_cases h : v = nd <;> simp [h]

theorem mem_definedPairs (abbrs : List Str) (nd : Str) (m : MMap) (k v : Str) :
    (k, v) ∈ definedPairs abbrs nd m ↔ k ∈ abbrs ∧ lookup k m = some v ∧ v ≠ nd := by
  rw [definedPairs_eq, List.mem_filterMap, ← defVal_eq_some_iff]
  constructor
  · rintro ⟨a, ha, h⟩
    obtain ⟨w, hd, e⟩ := Option.map_eq_some_iff.1 h
    cases e
    exact ⟨ha, hd⟩
  · rintro ⟨hk, hd⟩
    exact ⟨k, hk, by rw [hd]; rfl⟩

theorem keys_definedPairs_sublist (abbrs : List Str) (nd : Str) (m : MMap) :
    (keys (definedPairs abbrs nd m)).Sublist abbrs := by
  rw [definedPairs_eq]
  induction abbrs with
  | nil => exact List.Sublist.slnil
  | cons a r ih =>
    rw [List.filterMap_cons]
    cases defVal nd m a with
    | none => exact ih.cons _
    | some w => exact ih.cons_cons _

theorem keys_definedPairs_nodup (abbrs : List Str) (nd : Str) (m : MMap) (hn : abbrs.Nodup) :
    (keys (definedPairs abbrs nd m)).Nodup :=
  (keys_definedPairs_sublist abbrs nd m).nodup hn

theorem lookup_definedPairs (abbrs : List Str) (nd : Str) (m : MMap) (hn : abbrs.Nodup) (k : Str) :
    lookup k (definedPairs abbrs nd m) = if k ∈ abbrs then defVal nd m k else none := by
  apply Option.ext
  intro v
  rw [lookup_eq_some_iff _ (keys_definedPairs_nodup abbrs nd m hn), mem_definedPairs, ← defVal_eq_some_iff]
  by_cases hk : k ∈ abbrs <;> simp [hk]

theorem definedPairs_congr (abbrs : List Str) (nd : Str) (m₁ m₂ : MMap)
    (h : ∀ k ∈ abbrs, defVal nd m₁ k = defVal nd m₂ k) :
    definedPairs abbrs nd m₁ = definedPairs abbrs nd m₂ := by
  rw [definedPairs_eq, definedPairs_eq]
  exact List.filterMap_congr fun k hk => by rw [h k hk]

theorem defVal_definedPairs (abbrs : List Str) (nd : Str) (m : MMap) (hn : abbrs.Nodup) (k : Str)
    (hk : k ∈ abbrs) : defVal nd (definedPairs abbrs nd m) k = defVal nd m k := by
  apply Option.ext
  intro v
  rw [defVal_eq_some_iff, lookup_definedPairs _ _ _ hn, if_pos hk, defVal_eq_some_iff]
  exact ⟨fun h => h.1, fun h => ⟨h, h.2⟩⟩

theorem definedPairs_idem (abbrs : List Str) (nd : Str) (m : MMap) (hn : abbrs.Nodup) :
    definedPairs abbrs nd (definedPairs abbrs nd m) = definedPairs abbrs nd m :=
  definedPairs_congr abbrs nd _ _ (fun k hk => defVal_definedPairs abbrs nd m hn k hk)

/-- "define the same metric values", spelled out -/
theorem definedPairs_eq_iff (abbrs : List Str) (nd : Str) (m₁ m₂ : MMap) (hn : abbrs.Nodup) :
    definedPairs abbrs nd m₁ = definedPairs abbrs nd m₂ ↔
      ∀ k ∈ abbrs, (match lookup k m₁ with | some v => if v ≠ nd then some v else none | none => none) =
                   (match lookup k m₂ with | some v => if v ≠ nd then some v else none | none => none) := by
  constructor
  · intro h k hk
    have h1 := lookup_definedPairs abbrs nd m₁ hn k
    have h2 := lookup_definedPairs abbrs nd m₂ hn k
    rw [if_pos hk] at h1 h2
    rw [h] at h1
    exact (h1.symm.trans h2 : defVal nd m₁ k = defVal nd m₂ k)
  · intro h
    exact definedPairs_congr abbrs nd m₁ m₂ h

theorem assignment_definedPairs (abbrs : List Str) (nd : Str) (m : MMap) (hn : abbrs.Nodup)
    (hk : ∀ k ∈ keys m, k ∈ abbrs) : assignment nd (definedPairs abbrs nd m) = assignment nd m := by
  funext k
  by_cases h : k ∈ abbrs
  · rw [assignment_eq_defVal, assignment_eq_defVal, defVal_definedPairs _ _ _ hn _ h]
  · rw [assignment_of_none ((lookup_eq_none_iff _ _).2 (fun hh => h (hk k hh))),
      assignment_of_none (by rw [lookup_definedPairs _ _ _ hn, if_neg h])]

theorem filterMap_field (abbrs : List Str) (nd : Str) (m : MMap) :
    abbrs.filterMap (fun k => match lookup k m with
      | some v => if v ≠ nd then some (k ++ ':' :: v) else none
      | none => none) = (definedPairs abbrs nd m).map fieldOf := by
  unfold definedPairs
  rw [List.map_filterMap]
  congr 1
  funext k
  cases lookup k m with
  | none => rfl
  | some v => by_cases h : v = nd <;> simp [h, fieldOf]

theorem _root_.Cvss.Model.Accepted.canonical {v : Ver} {m : MMap} (acc : Accepted v.tables m) :
    Accepted v.tables (definedPairs v.tables.abbrs v.nd m) ∧
      assignment v.nd (definedPairs v.tables.abbrs v.nd m) = assignment v.nd m := by
  have hab := v.pinned.nodup
  have hleg : ∀ kv ∈ definedPairs v.tables.abbrs v.nd m, LegalPair v.tables kv := by
    rintro ⟨k, w⟩ hkv
    exact acc.legal _ (lookup_mem ((mem_definedPairs _ _ _ _ _).1 hkv).2.1)
  have hmand : ∀ k ∈ v.tables.mandatory, k ∈ keys (definedPairs v.tables.abbrs v.nd m) := by
    intro k hk
    obtain ⟨⟨k', w⟩, hkv, rfl⟩ := List.mem_map.1 (acc.mandatory k hk)
    obtain ⟨hka, ⟨vs, hvs, hv⟩, -, -⟩ := acc.legal _ hkv
    -- a mandatory metric does not take the Not Defined token, so its value is a defined one
    have hne : w ≠ v.nd := fun e => C05.ndLegal_mandatory (C05.ndLegal_ver v) hka hk hvs (e ▸ hv)
    exact mem_keys_of_mem ((mem_definedPairs _ _ _ _ _).2 ⟨hka, lookup_eq_some_of_mem m acc.nodup _ _ hkv, hne⟩)
  refine ⟨⟨⟨fun he => ?_, hleg, keys_definedPairs_nodup _ _ _ hab⟩, hmand⟩,
    assignment_definedPairs _ _ _ hab acc.keys_subset⟩
  -- every version has a mandatory metric, and it is listed
  obtain ⟨k, hk⟩ := List.exists_mem_of_ne_nil v.tables.mandatory (by cases v <;> decide)
  have := hmand k hk
  simp [he, keys] at this

/- `clean_vector()` is the rendering of the canonical listing, behind the version prefix (omitted when
   `output_prefix=False`; none for v2) -/
theorem clean_v2 (m : MMap) : V2.cleanOf m = join '/' ((definedPairs (keys Gen.V2.abbrs) V2.ND m).map fieldOf) := by
  rw [← filterMap_field]
  rfl

theorem clean_v3 (minor : Nat) (orig : MMap) (p : Bool) :
    V3.cleanOf minor orig p = (if p then V3.versionPrefix minor else []) ++
      join '/' ((definedPairs (keys Gen.V3.abbrs) V3.X orig).map fieldOf) := by
  rw [← filterMap_field]
  rfl

theorem clean_v4 (orig : MMap) (p : Bool) :
    V4.cleanOf orig p = (if p then V4.pfx else []) ++
      join '/' ((definedPairs (keys Gen.V4.abbrs) V4.X orig).map fieldOf) := by
  rw [← filterMap_field]
  rfl

theorem _root_.Cvss.Model.AnyObj.clean_eq (a : AnyObj) (p : Bool) :
    a.clean p = (if p then a.ver.pfx a.minor else []) ++
      join '/' ((definedPairs a.ver.tables.abbrs a.ver.nd a.orig).map fieldOf) := by
  cases a with
  | o2 o => simp only [AnyObj.clean, V2.Obj.clean, clean_v2, AnyObj.ver, Ver.pfx, ite_self, List.nil_append]; rfl
  | o3 o => exact clean_v3 _ _ _
  | o4 o => exact clean_v4 _ _

theorem clean_roundtrip {v : Ver} {s : Str} {a : AnyObj} (h : construct v s = .ok a) :
    ∃ a', construct v (a.clean true) = .ok a' ∧ a'.minor = a.minor ∧
      a'.orig = definedPairs v.tables.abbrs v.nd a.orig ∧ a'.scores = a.scores ∧ a'.severities = a.severities ∧
      a'.clean true = a.clean true ∧ a'.eq a = true := by
  have c := construct_spec h
  obtain ⟨acc', he⟩ := c.accepted.canonical
  obtain ⟨a', ha', hor, hmin, hsc, hsev, hcl, -, -, heq⟩ := rerender h acc' he
  exact ⟨a', by rw [a.clean_eq, if_pos rfl, c.ver]; exact ha', hmin, hor, hsc, hsev, hcl true, heq⟩

theorem v2_clean_roundtrip (s : Str) (o : V2.Obj) (h : V2.construct s = .ok o) :
    ∃ o', V2.construct o.clean = .ok o' ∧ o'.metrics = definedPairs (keys Gen.V2.abbrs) V2.ND o.metrics ∧
      o'.scores = o.scores ∧ o'.severities = o.severities ∧ o'.clean = o.clean ∧
      (AnyObj.o2 o').eq (AnyObj.o2 o) = true := by
  obtain ⟨o', ho', -, r⟩ := ofVer (clean_roundtrip (toVer2 h))
  exact ⟨o', ho', r⟩

theorem v3_clean_roundtrip (s : Str) (o : V3.Obj) (h : V3.construct s = .ok o) :
    ∃ o', V3.construct o.clean = .ok o' ∧ o'.minor = o.minor ∧
      o'.orig = definedPairs (keys Gen.V3.abbrs) V3.X o.orig ∧
      o'.scores = o.scores ∧ o'.severities = o.severities ∧ o'.clean = o.clean ∧
      (AnyObj.o3 o').eq (AnyObj.o3 o) = true := by
  exact ofVer (clean_roundtrip (toVer3 h))

theorem v4_clean_roundtrip (s : Str) (o : V4.Obj) (h : V4.construct s = .ok o) :
    ∃ o', V4.construct (o.clean true) = .ok o' ∧ o'.orig = definedPairs (keys Gen.V4.abbrs) V4.X o.orig ∧
      o'.scores = o.scores ∧ o'.severities = o.severities ∧ o'.clean true = o.clean true ∧
      (AnyObj.o4 o').eq (AnyObj.o4 o) = true := by
  obtain ⟨o', ho', -, r⟩ := ofVer (clean_roundtrip (toVer4 h))
  exact ⟨o', ho', r⟩

/-- v4 at the level of the parser (no scoring theorem needed): the clean vector parses to exactly the canonical listing -/
theorem v4_clean_reparse (s : Str) (m : MMap) (h : V4.parse s = .ok m) :
    V4.parse (V4.cleanOf m true) = .ok (definedPairs (keys Gen.V4.abbrs) V4.X m) ∧
    V4.cleanOf (definedPairs (keys Gen.V4.abbrs) V4.X m) true = V4.cleanOf m true := by
  obtain ⟨-, acc⟩ := (C04.v4_parse_iff s m).1 h
  obtain ⟨acc', he⟩ := Accepted.canonical (v := .v4) acc
  exact ⟨by rw [clean_v4, if_pos rfl]; exact (C04.v4_parse_iff _ _).2 ⟨rfl, acc'⟩, v4_cleanOf_congr true he⟩

theorem clean_inj {v : Ver} {i j : Nat} {m₁ m₂ : MMap} (a₁ : Accepted v.tables m₁) (a₂ : Accepted v.tables m₂)
    (hi : v.minorOk i) (hj : v.minorOk j)
    (e : v.pfx i ++ join '/' ((definedPairs v.tables.abbrs v.nd m₁).map fieldOf) =
      v.pfx j ++ join '/' ((definedPairs v.tables.abbrs v.nd m₂).map fieldOf)) :
    i = j ∧ definedPairs v.tables.abbrs v.nd m₁ = definedPairs v.tables.abbrs v.nd m₂ := by
  have hpfx : (v.pfx i).length = (v.pfx j).length ∧ (v.pfx i = v.pfx j → i = j) := by
    cases v with
    | v2 => exact ⟨rfl, fun _ => hi.trans hj.symm⟩
    | v3 =>
      have ei := C04.v3_prefix_iff.2 ⟨hi, rfl⟩
      have ej := C04.v3_prefix_iff.2 ⟨hj, rfl⟩
      have hlen : ∀ p ∈ V3.prefixes, ∀ q ∈ V3.prefixes, p.length = q.length := by decide
      exact ⟨hlen _ (List.mem_of_getElem? ei) _ (List.mem_of_getElem? ej),
        fun (e : V3.versionPrefix i = V3.versionPrefix j) =>
          (List.getElem?_inj (List.getElem?_eq_some_iff.1 ei).1 C04.pfxOk3.2).1 (ei.trans (e ▸ ej.symm))⟩
    | v4 => exact ⟨rfl, fun _ => hi.trans hj.symm⟩
  -- admissible prefixes have equal length, so `append_inj` splits them off
  obtain ⟨e1, e2⟩ := List.append_inj e hpfx.1
  have c₁ := a₁.canonical.1
  have c₂ := a₂.canonical.1
  exact ⟨hpfx.2 e1, c₁.toParsed.render_inj v.pinned.slashFreeLegal c₂.toParsed e2⟩

/-- two constructed objects of a class are equal exactly when they have the same minor version and define the
    same metric values -/
theorem eq_iff {v : Ver} {s s' : Str} {a a' : AnyObj} (h : construct v s = .ok a) (h' : construct v s' = .ok a') :
    a.eq a' = true ↔ a.minor = a'.minor ∧
      definedPairs v.tables.abbrs v.nd a.orig = definedPairs v.tables.abbrs v.nd a'.orig := by
  have c := construct_spec h
  have c' := construct_spec h'
  simp only [AnyObj.eq, c.ver, c'.ver, decide_true, Bool.true_and, decide_eq_true_eq, AnyObj.clean_eq, if_true]
  exact ⟨clean_inj c.accepted c'.accepted c.minorOk c'.minorOk, fun ⟨e1, e2⟩ => by rw [e1, e2]⟩

theorem v2_eq_iff (s₁ s₂ : Str) (o₁ o₂ : V2.Obj) (h₁ : V2.construct s₁ = .ok o₁) (h₂ : V2.construct s₂ = .ok o₂) :
    (AnyObj.o2 o₁).eq (AnyObj.o2 o₂) = true ↔
      definedPairs (keys Gen.V2.abbrs) V2.ND o₁.metrics = definedPairs (keys Gen.V2.abbrs) V2.ND o₂.metrics := by
  rw [eq_iff (toVer2 h₁) (toVer2 h₂)]
  exact and_iff_right rfl

theorem v3_eq_iff (s₁ s₂ : Str) (o₁ o₂ : V3.Obj) (h₁ : V3.construct s₁ = .ok o₁) (h₂ : V3.construct s₂ = .ok o₂) :
    (AnyObj.o3 o₁).eq (AnyObj.o3 o₂) = true ↔
      o₁.minor = o₂.minor ∧
      definedPairs (keys Gen.V3.abbrs) V3.X o₁.orig = definedPairs (keys Gen.V3.abbrs) V3.X o₂.orig := by
  exact eq_iff (toVer3 h₁) (toVer3 h₂)

/-- v4 at parser level: for objects whose `orig` comes from a successful parse (`v4_constructed_eq_iff`: from the constructor) -/
theorem v4_eq_iff (s₁ s₂ : Str) (o₁ o₂ : V4.Obj) (h₁ : V4.parse s₁ = .ok o₁.orig) (h₂ : V4.parse s₂ = .ok o₂.orig) :
    (AnyObj.o4 o₁).eq (AnyObj.o4 o₂) = true ↔
      definedPairs (keys Gen.V4.abbrs) V4.X o₁.orig = definedPairs (keys Gen.V4.abbrs) V4.X o₂.orig := by
  simp only [AnyObj.eq, AnyObj.ver, decide_true, Bool.true_and, decide_eq_true_eq, AnyObj.clean, V4.Obj.clean,
    clean_v4, if_true]
  exact ⟨fun e => (clean_inj (v := .v4) ((C04.v4_parse_iff _ _).1 h₁).2 ((C04.v4_parse_iff _ _).1 h₂).2
    (rfl : (0 : Nat) = 0) rfl e).2, fun e => by rw [e]⟩

theorem v4_constructed_eq_iff (s₁ s₂ : Str) (o₁ o₂ : V4.Obj) (h₁ : V4.construct s₁ = .ok o₁) (h₂ : V4.construct s₂ = .ok o₂) :
    (AnyObj.o4 o₁).eq (AnyObj.o4 o₂) = true ↔
      definedPairs (keys Gen.V4.abbrs) V4.X o₁.orig = definedPairs (keys Gen.V4.abbrs) V4.X o₂.orig :=
  (eq_iff (toVer4 h₁) (toVer4 h₂)).trans (and_iff_right rfl)

/-- equal objects define the same values, hence have the same observables -/
theorem eq_observables {v : Ver} {s s' : Str} {a a' : AnyObj} (h : construct v s = .ok a) (h' : construct v s' = .ok a')
    (he : a.eq a' = true) :
    a.scores = a'.scores ∧ a.severities = a'.severities ∧ ∀ p, a.clean p = a'.clean p := by
  obtain ⟨hm, hd⟩ := (eq_iff h h').1 he
  have e1 := (construct_spec h).accepted.canonical.2
  have e2 := (construct_spec h').accepted.canonical.2
  obtain ⟨o1, o2, o3, -⟩ := obs_congr h h' hm (by rw [← e1, ← e2, hd])
  exact ⟨o1, o2, o3⟩

theorem v2_eq_observables (s₁ s₂ : Str) (o₁ o₂ : V2.Obj) (h₁ : V2.construct s₁ = .ok o₁) (h₂ : V2.construct s₂ = .ok o₂)
    (he : (AnyObj.o2 o₁).eq (AnyObj.o2 o₂) = true) :
    o₁.scores = o₂.scores ∧ o₁.severities = o₂.severities ∧ o₁.clean = o₂.clean := by
  obtain ⟨a, b, c⟩ := eq_observables (toVer2 h₁) (toVer2 h₂) he
  exact ⟨a, b, c true⟩

theorem v3_eq_observables (s₁ s₂ : Str) (o₁ o₂ : V3.Obj) (h₁ : V3.construct s₁ = .ok o₁) (h₂ : V3.construct s₂ = .ok o₂)
    (he : (AnyObj.o3 o₁).eq (AnyObj.o3 o₂) = true) :
    o₁.scores = o₂.scores ∧ o₁.severities = o₂.severities ∧ o₁.clean = o₂.clean := by
  obtain ⟨a, b, c⟩ := eq_observables (toVer3 h₁) (toVer3 h₂) he
  exact ⟨a, b, c true⟩

theorem v4_eq_observables (s₁ s₂ : Str) (o₁ o₂ : V4.Obj) (h₁ : V4.construct s₁ = .ok o₁) (h₂ : V4.construct s₂ = .ok o₂)
    (he : (AnyObj.o4 o₁).eq (AnyObj.o4 o₂) = true) :
    o₁.scores = o₂.scores ∧ o₁.severities = o₂.severities ∧ o₁.clean true = o₂.clean true := by
  obtain ⟨a, b, c⟩ := eq_observables (toVer4 h₁) (toVer4 h₂) he
  exact ⟨a, b, c true⟩

end Cvss.Props.C07
