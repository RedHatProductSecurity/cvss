/-
  What the text of cvss2.py itself does, for every string / every valid metric dict: the source tie (`construct_eq`,
  `init_tail_eq`: model = translated source) composed with the property theorems about the model
  (`C03.v2_scores_eq_spec`: model = guide's equations; `C04.v2_construct_accepts_iff` etc.: model = grammar).
-/
import Cvss.Props.CodeTie2
import Cvss.Props.C03
import Cvss.Props.C04Final
namespace Cvss.Props.CodeTie2
open Cvss Cvss.Gen Cvss.Model Cvss.Spec.Grammar

/-- cvss2.py, `__init__` after `check_mandatory()`, as translated from the source text: for every valid
    metric dict it raises nothing and leaves exactly the guide's three scores on the object (`None`
    exactly where the guide's score is undefined) -/
theorem source_v2_scores_eq_spec (self : Code2.Self) (vector : Str) (hv : C03.ValidMap self.metrics) :
    ∃ x, Code2.init_tail self vector = .ok x ∧
      x.metrics = self.metrics ∧
      x.base_score = some (Spec.V2.baseScore (assignment V2.ND self.metrics)) ∧
      x.temporal_score = Spec.V2.temporalScore (assignment V2.ND self.metrics) ∧
      x.environmental_score = Spec.V2.environmentalScore (assignment V2.ND self.metrics) := by
  have hs := C03.v2_scores_eq_spec self.metrics hv
  have h := init_tail_eq self vector
  rw [hs] at h
  cases hx : Code2.init_tail self vector with
  | error e => rw [hx] at h; simp [Except.toOption] at h
  | ok x =>
    rw [hx] at h
    simp only [Except.toOption, Option.map_some, Option.some.injEq, Prod.mk.injEq] at h
    obtain ⟨_, h2, h3, h4, h5⟩ := h
    exact ⟨x, rfl, h2, h3, h4, h5⟩

/-- `CVSS2(s)` as translated from the source text succeeds exactly on the strings of the v2 grammar -/
theorem source_v2_construct_accepts_iff (s : Str) : (∃ x, Code2.construct s = .ok x) ↔ Accepts g2 s :=
  (Py.accepts_iff (construct_eq s)).trans (C04.v2_construct_accepts_iff s)

/-- … and otherwise raises the malformed or the mandatory class: no exception escapes the hierarchy -/
theorem source_v2_construct_outcomes (s : Str) :
    (∃ x, Code2.construct s = .ok x) ∨
      ∃ e, Code2.construct s = .error e ∧ (e.toErr = .malformed ∨ e.toErr = .mandatory) :=
  Py.outcomes_of AnyObj.o2 (construct_eq s) (C04.construct_outcomes .v2 s)

theorem source_v2_construct_mandatory_iff (s : Str) :
    (∃ e, Code2.construct s = .error e ∧ e.toErr = .mandatory) ↔ LacksMandatory g2 s :=
  (Py.raises_iff (construct_eq s) .mandatory).trans (C04.v2_construct_mandatory_iff s)

theorem source_v2_construct_scores (s : Str) (x : Code2.Self) (hx : Code2.construct s = .ok x) :
    ∃ o, V2.construct s = .ok o ∧ x.metrics = o.metrics ∧ x.base_score = some o.base ∧
      x.temporal_score = o.temporal ∧ x.environmental_score = o.env := by
  obtain ⟨o, ho, hv⟩ := Py.ok_of_ok (construct_eq s) hx
  simp only [Prod.mk.injEq] at hv
  exact ⟨o, ho, hv.2.1, hv.2.2.1, hv.2.2.2.1, hv.2.2.2.2⟩

end Cvss.Props.CodeTie2
