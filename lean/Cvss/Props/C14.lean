/-
  C14 — a more severe metric value never lowers a score (where the standard is monotone).
-/
import Cvss.Model.Any
import Cvss.Spec.V2
import Cvss.Spec.V3
import Cvss.Lemmas.Mono
import Cvss.Props.C14Defs
namespace Cvss.Props.C14
open Cvss Cvss.Lemmas.Mono

theorem v2_weights_monotone :
    ([(c!"AV", [c!"L", c!"A", c!"N"]), (c!"AC", [c!"H", c!"M", c!"L"]), (c!"Au", [c!"M", c!"S", c!"N"]),
      (c!"C", [c!"N", c!"P", c!"C"]), (c!"I", [c!"N", c!"P", c!"C"]), (c!"A", [c!"N", c!"P", c!"C"]),
      (c!"E", [c!"U", c!"POC", c!"F", c!"H"]), (c!"RL", [c!"OF", c!"TF", c!"W", c!"U"]),
      (c!"RC", [c!"UC", c!"UR", c!"C"])].all fun (m, o) => monotoneRow Gen.V2.values m o) = true := by
  decide +kernel

theorem v3_weights_monotone :
    ([(c!"AV", [c!"P", c!"L", c!"A", c!"N"]), (c!"AC", [c!"H", c!"L"]), (c!"PR", [c!"H", c!"L", c!"N"]),
      (c!"UI", [c!"R", c!"N"]), (c!"C", [c!"N", c!"L", c!"H"]), (c!"I", [c!"N", c!"L", c!"H"]),
      (c!"A", [c!"N", c!"L", c!"H"]), (c!"E", [c!"U", c!"P", c!"F", c!"H"]),
      (c!"RL", [c!"O", c!"T", c!"W", c!"U"]), (c!"RC", [c!"U", c!"R", c!"C"]),
      (c!"CR", [c!"L", c!"M", c!"H"]), (c!"IR", [c!"L", c!"M", c!"H"]), (c!"AR", [c!"L", c!"M", c!"H"]),
      (c!"MAV", [c!"P", c!"L", c!"A", c!"N"]), (c!"MAC", [c!"H", c!"L"]), (c!"MPR", [c!"H", c!"L", c!"N"]),
      (c!"MUI", [c!"R", c!"N"]), (c!"MC", [c!"N", c!"L", c!"H"]), (c!"MI", [c!"N", c!"L", c!"H"]),
      (c!"MA", [c!"N", c!"L", c!"H"])].all fun (m, o) => monotoneRow Gen.V3.values m o) = true := by
  decide +kernel

/-! The statements are about the specification's equations: the constructed objects' scores ARE these
    functions of the assignment read off the input (C01, C03); that it is `Legal2` / `Legal3` is not proved
    (`C14.Legal3`, in `Props/C14Defs.lean`). -/

section
-- the legality hypotheses of the two v2 statements are not needed: an unknown token weighs 0
set_option linter.unusedVariables false

theorem v2_base_step_mono (a : Str → Str) (ha : Legal2 a) (k lo hi : Str) (hs : (k, lo, hi) ∈ steps2base) (hk : a k = lo) :
    Spec.V2.baseScore a ≤ Spec.V2.baseScore (upd a k hi) ∧
    leOpt (Spec.V2.temporalScore a) (Spec.V2.temporalScore (upd a k hi)) :=
  have hw := step_le V2.steps_weights (List.mem_append_left _ hs) hk
  have hb := V2.baseScore_mono fun m _ => hw m
  ⟨hb, V2.temporalScore_mono hb (V2.temporalFactor_mono hw)⟩

theorem steps2temporal_keys : ∀ s ∈ steps2temporal,
    s.1 ∉ [c!"AV", c!"AC", c!"Au", c!"C", c!"I", c!"A"] := by decide +kernel

theorem v2_temporal_step_mono (a : Str → Str) (ha : Legal2 a) (k lo hi : Str) (hs : (k, lo, hi) ∈ steps2temporal)
    (hk : a k = lo) :
    Spec.V2.baseScore (upd a k hi) = Spec.V2.baseScore a ∧
    leOpt (Spec.V2.temporalScore a) (Spec.V2.temporalScore (upd a k hi)) := by
  have hw := step_le V2.steps_weights (List.mem_append_right _ hs) hk
  have hb : Spec.V2.baseScore (upd a k hi) = Spec.V2.baseScore a := by
    -- the six base weights are the same on both sides
    refine le_antisymm (V2.baseScore_mono fun m hm => ?_) (V2.baseScore_mono fun m _ => hw m)
    unfold Spec.V2.wa
    rw [upd_ne a hi fun (e : m = k) => steps2temporal_keys _ hs (e ▸ hm)]
  exact ⟨hb, V2.temporalScore_mono hb.ge (V2.temporalFactor_mono hw)⟩

end

theorem steps3temporal_keys : ∀ s ∈ steps3temporal,
    s.1 ∈ V3.otherKeys ∧ s.1 ∉ [c!"AV", c!"AC", c!"PR", c!"UI", c!"S", c!"C", c!"I", c!"A"] ∧
      s.1 ∉ [c!"C", c!"I", c!"A", c!"CR", c!"IR", c!"AR"] := by decide +kernel

theorem v3_temporal_step_mono (minor : Nat) (a : Str → Str) (ha : Legal3 a) (k lo hi : Str)
    (hs : (k, lo, hi) ∈ steps3temporal) (hk : a k = lo) :
    Spec.V3.temporalScore a ≤ Spec.V3.temporalScore (upd a k hi) ∧
    Spec.V3.environmentalScore minor a ≤ Spec.V3.environmentalScore minor (upd a k hi) := by
  obtain ⟨hother, hbase, hmiss⟩ := steps3temporal_keys _ hs
  have hw := step_le V3.steps_weights (List.mem_append_right _ hs) hk
  constructor
  · have hb : Spec.V3.baseScore (upd a k hi) = Spec.V3.baseScore a :=
      Lemmas.Spec3.baseScore_congr fun m hm => upd_ne a hi fun (e : m = k) => hbase (e ▸ hm)
    unfold Spec.V3.temporalScore
    rw [hb]
    exact Lemmas.Num3.roundup_mono (mul_le_mul_of_nonneg_left (Lemmas.Spec3.temporalFactor_mono hw)
      (V3.baseScore_nonneg a))
  · exact V3.env_upd ha (List.mem_append_right _ hother) (.inl rfl) (List.mem_append_right _ hs)
      (.inl ⟨(V3.effective_other hother).trans hk, V3.effective_upd_other_val a hi hother⟩) (.inr hmiss)

theorem v3_base_step_mono (a : Str → Str) (ha : Legal3 a) (k lo hi : Str) (hs : (k, lo, hi) ∈ steps3base) (hk : a k = lo) :
    Spec.V3.baseScore a ≤ Spec.V3.baseScore (upd a k hi) ∧
    Spec.V3.temporalScore a ≤ Spec.V3.temporalScore (upd a k hi) := by
  have hs' := List.mem_append_left steps3temporal (List.mem_append_left steps3req hs)
  have hb := V3.baseScore_le (V3.le_upd hs' hk) ha.1 (by simpa using ha.2.1)
    (V3.legalW_upd ha.1 (V3.steps_legal _ hs'))
  exact ⟨hb, Lemmas.Num3.roundup_mono (mul_le_mul hb
    (Lemmas.Spec3.temporalFactor_mono (step_le V3.steps_weights hs' hk))
    (Lemmas.Spec3.temporalFactor_range a).1 (V3.baseScore_nonneg _))⟩

theorem steps3base_keys : ∀ s ∈ steps3base, s.1 ∈ V3.keys := by decide +kernel

theorem steps3req_keys : ∀ s ∈ steps3req, s.1 ∈ V3.otherKeys := by decide +kernel

/-- `steps3base` lists the steps of AV, AC, PR, UI and S first: its first eight entries (the statements
    of the v3.0 theorems take them by position) are base steps that leave the impact metrics alone -/
theorem expl_scope_steps : ∀ s ∈ steps3base.take 8,
    s ∈ steps3base ∧ s.1 ∉ [c!"C", c!"I", c!"A", c!"CR", c!"IR", c!"AR"] := by decide +kernel

theorem mod_step_base_step : ∀ s ∈ steps3modExpl ++ steps3modImpact,
    s.1 = 'M' :: s.1.drop 1 ∧ s.2.2 ≠ Spec.V3.X ∧ (s.1.drop 1, s.2.1, s.2.2) ∈ steps3base ∧
      (s ∉ steps3modExpl ∨ (s.1.drop 1, s.2.1, s.2.2) ∈ steps3base.take 8) := by decide +kernel

theorem env_base_step {minor : Nat} {a : Str → Str} (ha : Legal3 a) {k lo hi : Str}
    (hs : (k, lo, hi) ∈ steps3base) (hk : a k = lo)
    (hm : minor ≠ 0 ∨ k ∉ [c!"C", c!"I", c!"A", c!"CR", c!"IR", c!"AR"]) :
    Spec.V3.environmentalScore minor a ≤ Spec.V3.environmentalScore minor (upd a k hi) := by
  have hkeys := steps3base_keys _ hs
  have hs' := List.mem_append_left steps3temporal (List.mem_append_left steps3req hs)
  exact V3.env_upd ha (List.mem_append_left _ hkeys) (.inl rfl) hs'
    ((V3.effective_upd_base_val a hi hkeys).imp_left fun h => ⟨h.1.trans hk, h.2⟩) hm

theorem env_mod_step {minor : Nat} {a : Str → Str} (ha : Legal3 a) {M lo hi : Str}
    (hs : (M, lo, hi) ∈ steps3modExpl ++ steps3modImpact) (hk : Spec.V3.eff a M (M.drop 1) = lo)
    (hm : minor ≠ 0 ∨ (M, lo, hi) ∈ steps3modExpl) :
    Spec.V3.environmentalScore minor a ≤ Spec.V3.environmentalScore minor (upd a M hi) := by
  obtain ⟨hM, hhi, hs', h8⟩ := mod_step_base_step _ hs
  have hkeys := steps3base_keys _ hs'
  generalize M.drop 1 = k at *
  subst hM
  refine V3.env_upd ha (List.mem_append_left _ hkeys) (.inr rfl)
    (List.mem_append_left _ (List.mem_append_left _ hs'))
    (.inl ⟨(V3.effective_base hkeys).trans hk, V3.effective_upd_mod_val a hkeys hhi⟩) (hm.imp_right fun h => ?_)
  exact (expl_scope_steps _ (h8.resolve_left (not_not_intro h))).2

/-! v3.1 (every minor ≠ 0): the environmental score never decreases under a more severe base metric (which
    reaches it through undefined Modified metrics), requirement, or Modified metric (step on the effective
    value). -/

theorem v31_env_base_step_mono (minor : Nat) (hm : minor ≠ 0) (a : Str → Str) (ha : Legal3 a) (k lo hi : Str)
    (hs : (k, lo, hi) ∈ steps3base) (hk : a k = lo) :
    Spec.V3.environmentalScore minor a ≤ Spec.V3.environmentalScore minor (upd a k hi) :=
  env_base_step ha hs hk (Or.inl hm)

theorem v31_env_req_step_mono (minor : Nat) (hm : minor ≠ 0) (a : Str → Str) (ha : Legal3 a) (k lo hi : Str)
    (hs : (k, lo, hi) ∈ steps3req) (hk : a k = lo) :
    Spec.V3.environmentalScore minor a ≤ Spec.V3.environmentalScore minor (upd a k hi) :=
  have hkeys := steps3req_keys _ hs
  V3.env_upd ha (List.mem_append_right _ hkeys) (.inl rfl)
    (List.mem_append_left _ (List.mem_append_right _ hs))
    (.inl ⟨(V3.effective_other hkeys).trans hk, V3.effective_upd_other_val a hi hkeys⟩) (.inl hm)

theorem v31_env_modified_step_mono (minor : Nat) (hm : minor ≠ 0) (a : Str → Str) (ha : Legal3 a) (M lo hi : Str)
    (hs : (M, lo, hi) ∈ steps3modExpl ++ steps3modImpact) (hk : Spec.V3.eff a M (M.drop 1) = lo) :
    Spec.V3.environmentalScore minor a ≤ Spec.V3.environmentalScore minor (upd a M hi) :=
  env_mod_step ha hs hk (Or.inl hm)

/-! v3.0: the environmental score is monotone in the exploitability and scope metrics (base ones reaching it
    through undefined Modified metrics, and Modified ones); it is EXEMPT for the impact and requirement
    metrics, where the 3.0 standard itself is not monotone (see `v30_env_not_monotone`). -/

theorem v30_env_expl_step_mono (a : Str → Str) (ha : Legal3 a) (k lo hi : Str)
    (hs : (k, lo, hi) ∈ steps3base.take 8) (hk : a k = lo) :
    Spec.V3.environmentalScore 0 a ≤ Spec.V3.environmentalScore 0 (upd a k hi) :=
  have h := expl_scope_steps _ hs
  env_base_step ha h.1 hk (Or.inr h.2)

theorem v30_env_modified_step_mono (a : Str → Str) (ha : Legal3 a) (M lo hi : Str)
    (hs : (M, lo, hi) ∈ steps3modExpl) (hk : Spec.V3.eff a M (M.drop 1) = lo) :
    Spec.V3.environmentalScore 0 a ≤ Spec.V3.environmentalScore 0 (upd a M hi) :=
  env_mod_step ha (List.mem_append_left _ hs) hk (Or.inr hs)

/-- the witness: CVSS:3.0/AV:P/AC:H/PR:H/UI:R/S:C/C:N/I:L/A:H/CR:L/IR:H/AR:H, everything else X
    (environmental score 6.9; with C:L instead of C:N it is 6.8) -/
def witness30 : Str → Str := fun k =>
  if k = c!"AV" then c!"P" else if k = c!"AC" then c!"H" else if k = c!"PR" then c!"H"
  else if k = c!"UI" then c!"R" else if k = c!"S" then c!"C" else if k = c!"C" then c!"N"
  else if k = c!"I" then c!"L" else if k = c!"A" then c!"H" else if k = c!"CR" then c!"L"
  else if k = c!"IR" then c!"H" else if k = c!"AR" then c!"H" else c!"X"

/-- witness of the exemption: in v3.0 a more severe impact value (here the base metric C, N → L,
    effective through the undefined MC) can LOWER the environmental score -/
theorem v30_env_not_monotone :
    ∃ a : Str → Str, Legal3 a ∧ ∃ k lo hi, (k, lo, hi) ∈ steps3req ++ steps3modImpact ++ steps3base.drop 8 ∧ a k = lo ∧
      Spec.V3.environmentalScore 0 (upd a k hi) < Spec.V3.environmentalScore 0 a := by
  refine ⟨witness30, ?_, c!"C", c!"N", c!"L", by decide, by decide, by decide +kernel⟩
  unfold Legal3
  decide +kernel

end Cvss.Props.C14
