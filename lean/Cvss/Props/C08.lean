/-
  C08 — every vector string the library emits is valid for its version.
  Here v2 / v3: the official patterns are `pre (F/)* F` (`sepRe`), every legal field matches `F` (one sweep
  per pattern), so every ACCEPTED string matches, in whatever order its fields stand.  The v4 pattern fixes
  the order: C08Final, with the constructor-level statements.
-/
import Cvss.Spec.RegexPatterns
import Cvss.Lemmas.Regex
import Cvss.Props.C04
namespace Cvss.Props.C08
open Cvss Cvss.Spec Cvss.Spec.Regex

/-- Brzozowski-derivative matching is sound and complete for the declarative semantics -/
theorem fullMatch_iff (r : Re) (s : Str) : fullMatch r s = true ↔ Matches r s :=
  fullMatch_iff_matches r s

/-- of a pattern `…(F/)*F`: the field alternation `F` -/
def lastSeq : Re → Re
  | .seq _ b => lastSeq b
  | r => r

def fieldRe20 : Re := lastSeq pattern20
def fieldRe30 : Re := lastSeq pattern30
def fieldRe31 : Re := lastSeq pattern31

theorem pattern20_eq : pattern20 = sepRe [] fieldRe20 := by rfl

/-- `CVSS:3.d/` as the v3 schemas write it, with an unescaped dot -/
def pre3 (d : Char) : List Re :=
  [.chr 'C', .chr 'V', .chr 'S', .chr 'S', .chr ':', .chr '3', .any, .chr d, .chr '/']

theorem matches_pre3 (d : Char) : Matches (Re.seqs (pre3 d)) (c!"CVSS:3." ++ [d, '/']) :=
  matches_lit_append c!"CVSS:3" (matches_seqs_cons_mk (s1 := ['.']) (.any '.' (by decide))
    (matches_lit_append [d, '/'] (l := []) .eps))

/-- `rfl` also checks that the starred and the last alternation are the same term -/
theorem pattern30_eq : pattern30 = sepRe (pre3 '0') fieldRe30 := by rfl

theorem pattern31_eq : pattern31 = sepRe (pre3 '1') fieldRe31 := by rfl

theorem v2_fieldRe_match :
    ((Grammar.fieldStrings Grammar.g2).all fun fm => fullMatch fieldRe20 fm.1) = true := by
  decide +kernel

theorem v30_fieldRe_match :
    ((Grammar.fieldStrings Grammar.g3).all fun fm => fullMatch fieldRe30 fm.1) = true := by
  decide +kernel

theorem v31_fieldRe_match :
    ((Grammar.fieldStrings Grammar.g3).all fun fm => fullMatch fieldRe31 fm.1) = true := by
  decide +kernel

theorem isField_matches {g : Grammar.G} {F : Re}
    (hF : ((Grammar.fieldStrings g).all fun fm => fullMatch F fm.1) = true) {f m : Str}
    (h : Grammar.IsField g f m) : Matches F f :=
  (fullMatch_iff F _).1 (List.all_eq_true.1 hF (f, m) h.mem_fieldStrings)

theorem fieldsOf_matches {g : Grammar.G} {F : Re}
    (hF : ((Grammar.fieldStrings g).all fun fm => fullMatch F fm.1) = true) :
    ∀ fields ms, Grammar.FieldsOf g fields ms → ∀ f ∈ fields, Matches F f
  | f0 :: fs, m :: ms, h, f, hf => by
    rcases List.mem_cons.1 hf with rfl | hf
    · exact isField_matches hF h.1
    · exact fieldsOf_matches hF fs ms h.2 f hf

theorem field_matches {g : Grammar.G} {F : Re} {pre : List Re} {p : Str}
    (hF : ((Grammar.fieldStrings g).all fun fm => fullMatch F fm.1) = true)
    (hpre : Matches (Re.seqs pre) p) {fm : Str × Str} (hfm : fm ∈ Grammar.fieldStrings g) :
    fullMatch (sepRe pre F) (p ++ fm.1) = true := by
  have hf : ∀ f ∈ [fm.1], Matches F f := by
    simpa using (fullMatch_iff F _).1 (List.all_eq_true.1 hF fm hfm)
  exact (fullMatch_iff _ _).2 (matches_sepRe hpre (List.cons_ne_nil _ _) hf)

/-- `hlen`: the prefixes of a grammar have one length, so `hp` tells which of them `s` begins with -/
theorem accepted_matches {g : Grammar.G} {F : Re} {pre : List Re} {p : Str}
    (hF : ((Grammar.fieldStrings g).all fun fm => fullMatch F fm.1) = true)
    (hpre : Matches (Re.seqs pre) p) (hlen : ∀ q ∈ g.prefixes, q.length = p.length) {s : Str}
    (h : Grammar.Accepts g s) (hp : p <+: s) : Matches (sepRe pre F) s := by
  obtain ⟨ms, ⟨q, fields, hq, rfl, hne, hfo, -⟩, -⟩ := h
  have hpq : p <+: q :=
    List.prefix_of_prefix_length_le hp (List.prefix_append q _) (Nat.le_of_eq (hlen q hq).symm)
  obtain rfl : p = q := hpq.eq_of_length (hlen q hq).symm
  exact matches_sepRe hpre hne (fieldsOf_matches hF fields ms hfo)

/-- per-field membership: every legal `metric:value` string, on its own, is a vector the official
    v2 pattern matches (the pattern is `(F/)*F`) -/
theorem v2_fields_match :
    ((Grammar.fieldStrings Grammar.g2).all fun (f, _) => Regex.fullMatch Regex.pattern20 f) = true := by
  rw [List.all_eq_true, pattern20_eq]
  rintro ⟨f, m⟩ hfm
  exact field_matches (pre := []) v2_fieldRe_match .eps hfm

theorem v30_fields_match :
    ((Grammar.fieldStrings Grammar.g3).all fun (f, _) => Regex.fullMatch Regex.pattern30 (c!"CVSS:3.0/" ++ f)) = true := by
  rw [List.all_eq_true, pattern30_eq]
  rintro ⟨f, m⟩ hfm
  -- `fm` given: left to the unifier this step is several times as dear
  exact field_matches (fm := (f, m)) v30_fieldRe_match (matches_pre3 '0') hfm

theorem v31_fields_match :
    ((Grammar.fieldStrings Grammar.g3).all fun (f, _) => Regex.fullMatch Regex.pattern31 (c!"CVSS:3.1/" ++ f)) = true := by
  rw [List.all_eq_true, pattern31_eq]
  rintro ⟨f, m⟩ hfm
  exact field_matches (fm := (f, m)) v31_fieldRe_match (matches_pre3 '1') hfm

/-! Every ACCEPTED v2 / v3 string conforms: so in particular the clean vector, the vector part of the Red Hat
    notation and the interactive builder's result, which C07 / C16 show are accepted. -/

theorem v2_accepted_matches (s : Str) (h : Grammar.Accepts Grammar.g2 s) : Matches pattern20 s := by
  rw [pattern20_eq]
  exact accepted_matches (pre := []) v2_fieldRe_match .eps (by decide) h List.nil_prefix

theorem v30_accepted_matches (s : Str) (h : Grammar.Accepts Grammar.g3 s) (hp : c!"CVSS:3.0/" <+: s) :
    Matches pattern30 s := by
  rw [pattern30_eq]
  exact accepted_matches v30_fieldRe_match (matches_pre3 '0') (by decide) h hp

theorem v31_accepted_matches (s : Str) (h : Grammar.Accepts Grammar.g3 s) (hp : c!"CVSS:3.1/" <+: s) :
    Matches pattern31 s := by
  rw [pattern31_eq]
  exact accepted_matches v31_fieldRe_match (matches_pre3 '1') (by decide) h hp

end Cvss.Props.C08
