/-
  C10 — JSON output validates against the official FIRST JSON schema.
  Every item `as_json` can write passes the property the schema has for its key (the metric fields by one finite
  check per schema, `fieldsOk`; the vector by C08); `SchemaValid.runJson_valid` composes them along the run.
  For v4.0 the statement is false: `json_v4_invalid_witness`.
-/
import Cvss.Spec.SchemaTerms
import Cvss.Props.C08
import Cvss.Props.C09
import Cvss.Lemmas.Construct
import Cvss.Lemmas.SchemaValid
namespace Cvss.Props.C10
open Cvss Cvss.Model Cvss.Spec Cvss.Lemmas.SchemaValid

theorem v2_fields_ok : fieldsOk Schema.schema20 Gen.V2.jsonKeys Gen.V2.valueNames us2 V2.tables.legal = true := by
  decide +kernel
theorem v30_fields_ok : fieldsOk Schema.schema30 Gen.V3.jsonKeys Gen.V3.valueNames us3 V3.tables.legal = true := by
  decide +kernel
theorem v31_fields_ok : fieldsOk Schema.schema31 Gen.V3.jsonKeys Gen.V3.valueNames us3 V3.tables.legal = true := by
  decide +kernel

def scoreKeys : List Str := [c!"baseScore", c!"temporalScore", c!"environmentalScore"]
def sevKeys : List Str := [c!"baseSeverity", c!"temporalSeverity", c!"environmentalSeverity"]
def ratings : List Str := [c!"None", c!"Low", c!"Medium", c!"High", c!"Critical"]

def scoresOk (sch : Schema.Schema) : Bool :=
  scoreKeys.all fun k => match lookup k sch.props with
    | some (.number lo hi) => decide (lo ≤ 0) && decide (10 ≤ hi)
    | _ => false

def ratingsOk (sch : Schema.Schema) : Bool :=
  sevKeys.all fun k => match lookup k sch.props with
    | none => false
    | some c => ratings.all fun r => Schema.okConstraint c (.str (us3 r))

theorem scores_ok : scoresOk Schema.schema20 = true ∧ scoresOk Schema.schema30 = true ∧
    scoresOk Schema.schema31 = true ∧ ratingsOk Schema.schema30 = true ∧ ratingsOk Schema.schema31 = true := by
  decide +kernel

theorem score_ok {sch : Schema.Schema} (h : scoresOk sch = true) {k : Str} (hk : k ∈ scoreKeys) {x : Rat}
    (hx : ∃ n : Nat, n ≤ 100 ∧ x = (n : Rat) / 10) : propOk sch k (.num x) = true := by
  have h1 := List.all_eq_true.1 h k hk
  obtain ⟨n, hn, rfl⟩ := hx
  unfold propOk
  cases hc : lookup k sch.props with
  | none => rfl
  | some c =>
    rw [hc] at h1
    cases c with
    | number lo hi =>
      simp only [Bool.and_eq_true, decide_eq_true_eq] at h1
      simp only [Schema.okConstraint, Bool.and_eq_true, decide_eq_true_eq]
      constructor
      · exact le_trans h1.1 (div_nonneg (Nat.cast_nonneg n) (by norm_num))
      · refine le_trans ?_ h1.2
        rw [div_le_iff₀ (by norm_num)]
        exact_mod_cast hn
    | enumStr _ => cases h1
    | pattern _ => cases h1

theorem sev_ok {sch : Schema.Schema} (h : ratingsOk sch = true) {k : Str} (hk : k ∈ sevKeys) (x : Rat) :
    propOk sch k (.str (us3 (V3.sevOf x))) = true := by
  have h1 := List.all_eq_true.1 h k hk
  have ite_mem : ∀ {c : Prop} [Decidable c] {a b : Str}, a ∈ ratings → b ∈ ratings →
      (if c then a else b) ∈ ratings := by
    intro c _ a b ha hb
    split
    · exact ha
    · exact hb
  -- the nest mirrors the `if` cascade of `V3.sevOf`
  have hr : V3.sevOf x ∈ ratings :=
    ite_mem (.head _) (ite_mem (.tail _ (.head _)) (ite_mem (.tail _ (.tail _ (.head _)))
      (ite_mem (.tail _ (.tail _ (.tail _ (.head _)))) (.tail _ (.tail _ (.tail _ (.tail _ (.head _))))))))
  unfold propOk
  cases hc : lookup k sch.props with
  | none => rfl
  | some c =>
    rw [hc] at h1
    exact List.all_eq_true.1 h1 _ hr

theorem descr_of_legal {names : List (Str × List (Str × Str))} {legal : List (Str × List Str)}
    (hnl : names.map (fun (k, row) => (k, keys row)) = legal) {k t : Str}
    (ht : t ∈ (lookup k legal).getD []) :
    ∃ row d, lookup k names = some row ∧ lookup t row = some d := by
  rw [← hnl, lookup_map_keys] at ht
  cases hrow : lookup k names with
  | none => simp [hrow] at ht
  | some row =>
    rw [hrow] at ht
    simp only [Option.map_some, Option.getD_some] at ht
    obtain ⟨d, hd⟩ := lookup_of_mem_keys ht
    exact ⟨row, d, rfl, hd⟩

theorem optional_nd2 : ∀ k ∈ keys Gen.V2.abbrs,
    k ∈ V2.tables.mandatory ∨ Model.V2.ND ∈ (lookup k V2.tables.legal).getD [] := by
  decide +kernel

theorem v2_field_ok {m : MMap} (hv : C03.ValidMap m) {k : Str} (hk : k ∈ keys Gen.V2.abbrs) :
    ∃ key d, lookup k Gen.V2.jsonKeys = some key ∧ V2.getDescription m k = some d ∧
      propOk Schema.schema20 key (.str (us2 d)) = true := by
  obtain ⟨key, row, d, h1, hrow, hd, h2⟩ := field_ok v2_fields_ok (legal_getD hv (optional_nd2 k hk))
  refine ⟨key, d, h1, ?_, h2⟩
  unfold V2.getDescription
  rw [hrow]
  exact hd

theorem props_nodup : (keys Schema.schema20.props).Nodup ∧ (keys Schema.schema30.props).Nodup ∧
    (keys Schema.schema31.props).Nodup := by decide +kernel

theorem version_ok : propOk Schema.schema20 c!"version" (.str c!"2.0") = true ∧
    propOk Schema.schema30 c!"version" (.str (c!"3." ++ natToStr 0)) = true ∧
    propOk Schema.schema31 c!"version" (.str (c!"3." ++ natToStr 1)) = true := by decide +kernel

theorem vector_ok {sch : Schema.Schema} {re : Regex.Re} {s : Str}
    (e : lookup c!"vectorString" sch.props = some (.pattern re)) (h : Regex.Matches re s) :
    propOk sch c!"vectorString" (.str s) = true := by
  unfold propOk
  rw [e]
  exact (C08.fullMatch_iff _ _).2 h

theorem isScore_getD {t : Option Rat} (h : ∀ x, t = some x → C03.IsScore x) : C03.IsScore (t.getD 0) := by
  cases t with
  | none => exact ⟨0, by omega, by simp⟩
  | some x => exact h x rfl

theorem v3_valid_aux (sch : Schema.Schema) (o : V3.Obj) (sort minimal : Bool)
    (hmf : fieldsOk sch Gen.V3.jsonKeys Gen.V3.valueNames us3 V3.tables.legal = true)
    (hsc : scoresOk sch = true) (hrt : ratingsOk sch = true)
    (hver : propOk sch c!"version" (.str (c!"3." ++ natToStr o.minor)) = true)
    (hvec : propOk sch c!"vectorString" (.str o.vector) = true)
    (hreq : sch.required = [c!"version", c!"vectorString", c!"baseScore", c!"baseSeverity"])
    (hn : (keys sch.props).Nodup) (hb : sch.bands = [])
    (hdescr : ∀ k ∈ keys Gen.V3.abbrs, C01.legalTok k ((lookup k o.metrics).getD Model.V3.X))
    (hs : C01.IsScore o.base ∧ C01.IsScore o.temporal ∧ C01.IsScore o.env) :
    ∃ j, asJson3 o sort minimal = some j ∧ Schema.failures sch j = [] := by
  have hm : ∀ k, (k ∈ Gen.V3.mandatory ∨ k ∈ Gen.V3.temporal ∨ k ∈ Gen.V3.environmental) →
      ∃ key d, lookup k Gen.V3.jsonKeys = some key ∧ V3.getDescription o.metrics k = some d ∧
        propOk sch key (.str (us3 d)) = true := by
    intro k hk
    obtain ⟨key, row, d, h1, hrow, hd, h2⟩ := field_ok hmf (hdescr k ((groups3_mem k).2 hk))
    refine ⟨key, d, h1, ?_, h2⟩
    unfold V3.getDescription
    rw [hrow]
    exact hd
  have hsco := fun {k x} => score_ok hsc (k := k) (x := x)
  have hsev := fun {k} hk x => sev_ok hrt (k := k) hk x
  rw [asJson3_run]
  refine runJson_valid _ _ _ _ _ _ sort (fresh3 o minimal) ?_ ?_ ?_ ?_ hn hb
  -- unroll each `∀ x ∈` over a literal list
  all_goals simp only [blocks3, hdr3, hreq, List.forall_mem_cons, List.not_mem_nil, false_imp_iff,
    implies_true, and_true]
  · exact ⟨fun k hk => hm k (.inl hk), fun k hk => hm k (.inr (.inl hk)), fun k hk => hm k (.inr (.inr hk))⟩
  · exact ⟨hver, hvec⟩
  · exact ⟨⟨hsco (by decide) hs.1, hsev (by decide) _⟩, ⟨hsco (by decide) hs.2.1, hsev (by decide) _⟩,
      hsco (by decide) hs.2.2, hsev (by decide) _⟩
  · -- the required keys: two in the header, two among the extra items of the first block
    exact ⟨.inl (.head _), .inl (.tail _ (.head _)), .inr ⟨_, .head _, .head _⟩,
      .inr ⟨_, .head _, .tail _ (.head _)⟩⟩

/-- `as_json` never fails (no KeyError) on a constructed v2 object, and its result has no failing
    schema location: required keys present, every property satisfies its constraint (string enumerations
    for the metric fields, the number range for scores, the vectorString pattern) -/
theorem v2_json_valid (s : Str) (o : V2.Obj) (h : V2.construct s = .ok o) (sort minimal : Bool) :
    ∃ j, asJson2 o sort minimal = some j ∧ Schema.failures Schema.schema20 j = [] := by
  obtain ⟨m, hp, ho⟩ := (Lemmas.Construct.v2_construct_ok_iff s o).1 h
  have hv := Lemmas.Construct.validMap2_of_parse hp
  have hmet : o.metrics = m := by rw [ho]
  have hvec : o.vector = s := by rw [ho]
  obtain ⟨hbase, rt, re, -⟩ := C09.v2_scores_wellformed s o h
  have htemp : C03.IsScore (o.temporal.getD 0) := isScore_getD rt
  have henv : C03.IsScore (o.env.getD 0) := isScore_getD re
  have hacc : Grammar.Accepts Grammar.g2 s := (C04.v2_parse_ok_iff s).1 ⟨m, hp⟩
  have hm : ∀ k, (k ∈ Gen.V2.mandatory ∨ k ∈ Gen.V2.temporal ∨ k ∈ Gen.V2.environmental) →
      ∃ key d, lookup k Gen.V2.jsonKeys = some key ∧ V2.getDescription o.metrics k = some d ∧
        propOk Schema.schema20 key (.str (us2 d)) = true :=
    fun k hk => hmet ▸ v2_field_ok hv ((groups2_mem k).2 hk)
  have hsco := fun {k x} => score_ok scores_ok.1 (k := k) (x := x)
  rw [asJson2_run]
  refine runJson_valid _ _ _ _ _ _ sort (fresh2 o minimal) ?_ ?_ ?_ (fun k hk => Or.inl hk) props_nodup.1 rfl
  all_goals simp only [blocks2, hdr2, List.forall_mem_cons, List.not_mem_nil, false_imp_iff, implies_true,
    and_true, true_and]
  · exact ⟨fun k hk => hm k (.inl hk), fun k hk => hm k (.inr (.inl hk)), fun k hk => hm k (.inr (.inr hk))⟩
  · exact ⟨version_ok.1, hvec ▸ vector_ok (re := Regex.pattern20) rfl (C08.v2_accepted_matches s hacc),
      hsco (by decide) hbase⟩
  · exact ⟨hsco (by decide) htemp, hsco (by decide) henv⟩

/-- v3: against the 3.0 schema for a CVSS:3.0 vector and the 3.1 schema for a CVSS:3.1 vector -/
theorem v3_json_valid (s : Str) (o : V3.Obj) (h : V3.construct s = .ok o) (sort minimal : Bool) :
    ∃ j, asJson3 o sort minimal = some j ∧
      Schema.failures (if o.minor = 0 then Schema.schema30 else Schema.schema31) j = [] := by
  obtain ⟨i, m, hp, hbuild⟩ := (Lemmas.Construct.v3_construct_ok_iff s o).1 h
  have hv := Lemmas.Construct.validMap3_of_parse hp
  obtain ⟨o', ho', hvec, hmin, -, -, -, -, hf⟩ := C01.v3_build_eq_spec s i m hv
  rw [hbuild] at ho'
  cases ho'
  obtain ⟨rb, rt, re, -⟩ := C09.v3_scores_wellformed s o h
  have hs : C01.IsScore o.base ∧ C01.IsScore o.temporal ∧ C01.IsScore o.env := ⟨rb, rt, re⟩
  have hdescr : ∀ k ∈ keys Gen.V3.abbrs, C01.legalTok k ((lookup k o.metrics).getD Model.V3.X) :=
    fun k hk => C01.getD_filled hf k ▸ (C01.legal_effTok hv hk).1
  have hacc : Grammar.Accepts Grammar.g3 s := (C04.v3_parse_ok_iff s).1 ⟨_, hp⟩
  obtain ⟨hi, hsp, -⟩ := C04.v3_parse_ok_fields s i m hp
  have hpre : V3.versionPrefix i <+: s := hsp ▸ List.prefix_append _ _
  obtain ⟨-, sc30, sc31, rt30, rt31⟩ := scores_ok
  obtain ⟨-, nd30, nd31⟩ := props_nodup
  obtain ⟨-, ver30, ver31⟩ := version_ok
  rcases hi with rfl | rfl
  · rw [hmin, if_pos rfl]
    apply v3_valid_aux _ o sort minimal v30_fields_ok sc30 rt30 _ _ rfl nd30 rfl hdescr hs
    · rw [hmin]
      exact ver30
    · rw [hvec]
      exact vector_ok (re := Regex.pattern30) rfl (C08.v30_accepted_matches s hacc hpre)
  · rw [hmin, if_neg (by omega)]
    apply v3_valid_aux _ o sort minimal v31_fields_ok sc31 rt31 _ _ rfl nd31 rfl hdescr hs
    · rw [hmin]
      exact ver31
    · rw [hvec]
      exact vector_ok (re := Regex.pattern31) rfl (C08.v31_accepted_matches s hacc hpre)

def v4Witness : Str := c!"CVSS:4.0/AV:N/AC:L/AT:N/PR:N/UI:N/VC:H/VI:H/VA:H/SC:H/SI:H/SA:H"

/-- v4.0: what is stated is the negation, a known finding: the JSON of the simplest vector fails the official
    schema at `version` (the enum is ["4.0"], the library writes "4") and at the baseScore/baseSeverity band -/
theorem json_v4_invalid_witness :
    (match V4.construct v4Witness with
     | .ok o => (asJson4 o false false).map (Schema.failures Schema.schema40)
     | .error _ => none) = some [c!"version", c!"baseScore/baseSeverity:anyOf"] := by
  decide +kernel

end Cvss.Props.C10
