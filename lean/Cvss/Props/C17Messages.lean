/-
  C17 — the models with message texts (`Model/Messages.lean`, `Model/CliMsg.lean`, `Model/Prompts.lean`) against
  the message-free ones: parser and constructor fail exactly when the message-free ones do, with the "Missing
  mandatory metrics" text exactly for the mandatory class; the calculator with texts is the message-free one with
  the error line instantiated (`mainMsg_eq`); the printing dialogue returns the vector of `Interactive.ask`.
  Of the complete stdout only this is stated: it exists and ends in a newline (`stdout_total`).
-/
import Cvss.Props.C17Final
import Cvss.Lemmas.Messages
namespace Cvss.Props.C17
open Cvss Cvss.Model Cvss.Model.Cli Cvss.Lemmas.Messages

theorem parseMsg_v2 (s : Str) (m : MMap) : Messages.parseMsg .v2 s = .ok m ↔ V2.parse s = .ok m := by
  rw [(parseMsg_rel_v2 s).ok_iff m]
  simp
theorem parseMsg_v3 (s : Str) (m : MMap) : Messages.parseMsg .v3 s = .ok m ↔ ∃ i, V3.parse s = .ok (i, m) := by
  rw [(parseMsg_rel_v3 s).ok_iff m]
  constructor
  · rintro ⟨⟨i, m'⟩, h, rfl⟩; exact ⟨i, h⟩
  · rintro ⟨i, h⟩; exact ⟨(i, m), h, rfl⟩
theorem parseMsg_v4 (s : Str) (m : MMap) : Messages.parseMsg .v4 s = .ok m ↔ V4.parse s = .ok m := by
  rw [(parseMsg_rel_v4 s).ok_iff m]
  simp

/-- `PRel` lifted from the parser to the constructor: what parses is constructed (`construct_of_accepted`), and
    a constructor passes the parser's error on -/
theorem construct_rel (v : Ver) (s : Str) : PRel AnyObj.orig (Messages.parseMsg v s) (construct v s) := by
  cases v with
  | v2 =>
    refine (parseMsg_rel_v2 s).lift (fun m hm => ?_) (fun e he => ?_)
    · obtain ⟨rfl, acc⟩ := (C04.v2_parse_iff _ _).1 hm
      obtain ⟨a, ha, hm', -⟩ := construct_of_accepted (v := .v2) (i := 0) acc rfl
      exact ⟨a, ha, hm'⟩
    · simp only [construct, V2.construct, he]
      rfl
  | v3 =>
    refine (parseMsg_rel_v3 s).lift (fun r hm => ?_) (fun e he => ?_)
    · obtain ⟨hi, rfl, acc⟩ := (C04.v3_parse_iff _ r.1 r.2).1 hm
      obtain ⟨a, ha, hm', -⟩ := construct_of_accepted (v := .v3) acc hi
      exact ⟨a, ha, hm'⟩
    · simp only [construct, V3.construct, he]
      rfl
  | v4 =>
    refine (parseMsg_rel_v4 s).lift (fun m hm => ?_) (fun e he => ?_)
    · obtain ⟨rfl, acc⟩ := (C04.v4_parse_iff _ _).1 hm
      obtain ⟨a, ha, hm', -⟩ := construct_of_accepted (v := .v4) (i := 0) acc rfl
      exact ⟨a, ha, hm'⟩
    · simp only [construct, V4.construct, he]
      rfl

theorem constructMsg_none_iff_parse (v : Ver) (s : Str) :
    Messages.constructMsg v s = none ↔ ∃ m, Messages.parseMsg v s = .ok m := by
  unfold Messages.constructMsg
  cases Messages.parseMsg v s with
  | error e => exact ⟨nofun, nofun⟩
  | ok m => exact ⟨fun _ => ⟨m, rfl⟩, fun _ => rfl⟩

theorem constructMsg_some_iff_parse (v : Ver) (s e : Str) :
    Messages.constructMsg v s = some e ↔ Messages.parseMsg v s = .error e := by
  unfold Messages.constructMsg
  cases Messages.parseMsg v s with
  | error e' => exact ⟨fun h => congrArg _ (Option.some.inj h), fun h => congrArg _ (Except.error.inj h)⟩
  | ok m => exact ⟨nofun, nofun⟩

theorem constructMsg_none_iff (v : Ver) (s : Str) :
    Messages.constructMsg v s = none ↔ ∃ o, construct v s = .ok o := by
  rw [constructMsg_none_iff_parse, (construct_rel v s).exists_ok_iff]

theorem constructMsg_mandatory_iff (v : Ver) (s : Str) :
    (∃ rest, Messages.constructMsg v s = some (c!"Missing mandatory metrics " ++ rest)) ↔
      construct v s = .error .mandatory := by
  rw [← (construct_rel v s).mand_iff]
  constructor
  · rintro ⟨rest, h⟩
    exact ⟨_, (constructMsg_some_iff_parse v s _).1 h, rest, rfl⟩
  · rintro ⟨e, he, rest, rfl⟩
    exact ⟨rest, (constructMsg_some_iff_parse v s _).2 he⟩

/-- the shape of every failing leaf below; stated over variables because `nofun` against the goal itself
    would elaborate a `match` over the whole message text -/
theorem some_eq_none_iff_error_eq_ok {α ε β : Type} {a : α} {e : ε} :
    some a = none ↔ ∃ o : β, (Except.error e : Except ε β) = .ok o :=
  ⟨nofun, nofun⟩

theorem fromRhMsg_none_iff (v : Ver) (text : Str) :
    Messages.fromRhMsg v text = none ↔ ∃ o, fromRh v text = .ok o := by
  unfold Messages.fromRhMsg fromRh
  cases splitFirst '/' text with
  | none => exact some_eq_none_iff_error_eq_ok
  | some p =>
    obtain ⟨score, baseVector⟩ := p
    dsimp only
    cases Float.parseFloat score with
    | none => exact some_eq_none_iff_error_eq_ok
    | some fv =>
      dsimp only
      cases hm : Messages.constructMsg v baseVector with
      | some e =>
        cases hc : construct v baseVector with
        | error x => exact some_eq_none_iff_error_eq_ok
        | ok o =>
          rw [(constructMsg_none_iff v baseVector).2 ⟨o, hc⟩] at hm
          cases hm
      | none =>
        obtain ⟨o, ho⟩ := (constructMsg_none_iff v baseVector).1 hm
        rw [ho]
        dsimp only
        cases Float.eqScore o.base fv
        · exact some_eq_none_iff_error_eq_ok
        · exact ⟨fun _ => ⟨o, rfl⟩, fun _ => rfl⟩

theorem reportMsg_outcome (f : Flags) (s : Str) :
    (match reportMsg f s with | some ls => Outcome.lines ls | none => .crash) =
      match (match report f s with | some ls => Outcome.lines ls | none => .crash) with
      | .lines ls => .lines (if ls = [errorLine] then
          (match Messages.constructMsg (classOf (version f)) s with | some m => [m] | none => ls) else ls)
      | .eof => .eof
      | .crash => .crash := by
  unfold reportMsg
  cases report f s with
  | none => rfl
  | some ls =>
    dsimp only
    by_cases h : ls = [errorLine]
    · rw [if_pos h, if_pos h]
      cases Messages.constructMsg (classOf (version f)) s with
      | none => rfl
      | some m => rfl
    · rw [if_neg h, if_neg h]

theorem mainMsg_eq (f : Flags) (stdin : List Str) :
    mainMsg f stdin =
      match main f stdin with
      | .lines ls => .lines (if ls = [errorLine] then
          -- the vector the run used: `-v`, or the interactive result
          (match (match f.vector with | some s => if s = [] then none else some s | none => none) with
           | some s => (match Messages.constructMsg (classOf (version f)) s with | some m => [m] | none => ls)
           | none => (match Interactive.ask (version f) f.all stdin with
              | .result s _ _ => (match Messages.constructMsg (classOf (version f)) s with | some m => [m] | none => ls)
              | _ => ls))
          else ls)
      | .eof => .eof
      | .crash => .crash := by
  unfold mainMsg main
  cases hv : f.vector with
  | none =>
    cases hask : Interactive.ask (version f) f.all stdin with
    | eof a => rfl
    | keyError => rfl
    | result s n a => exact reportMsg_outcome f s
  | some s =>
    by_cases hs : s = []
    · simp only [if_pos hs]
      cases hask : Interactive.ask (version f) f.all stdin with
      | eof a => rfl
      | keyError => rfl
      | result s n a => exact reportMsg_outcome f s
    · simp only [if_neg hs]
      exact reportMsg_outcome f s

theorem dialogue_vector (v : Interactive.IVer) (allMetrics noColors : Bool) (answers : List Str) :
    (Prompts.dialogue v allMetrics noColors answers).2 =
      match Interactive.ask v allMetrics answers with
      | .result vec _ _ => some vec
      | _ => none := by
  obtain ⟨T, g, hA, -⟩ := C16.agree v
  have habbrs : Interactive.abbrsOf v = keys (Prompts.abbrNamesOf v) := by cases v <;> rfl
  refine dialogueLoop_loop v noColors _ (fun m hm => ?_) answers _ [] []
  exact (lookup_isSome_iff_mem_keys _ m).2 (habbrs ▸ hA.asked_sub allMetrics hm)

theorem reportMsg_some (f : Flags) (s : Str) : ∃ ls, reportMsg f s = some ls ∧ ls ≠ [] := by
  obtain ⟨l, ls, hr⟩ := report_some f s
  unfold reportMsg
  rw [hr]
  dsimp only
  by_cases h : l :: ls = [errorLine]
  · rw [if_pos h]
    cases Messages.constructMsg (classOf (version f)) s with
    | none => exact ⟨_, rfl, List.cons_ne_nil _ _⟩
    | some m => exact ⟨_, rfl, List.cons_ne_nil _ _⟩
  · rw [if_neg h]
    exact ⟨_, rfl, List.cons_ne_nil _ _⟩

theorem render_last (pre : Str) (ls : List Str) (h : ls ≠ []) :
    (pre ++ (ls.map (fun l => l ++ c!"\n")).flatten).getLast? = some '\n' := by
  obtain ⟨init, last, rfl⟩ : ∃ init last, ls = init ++ [last] :=
    ⟨ls.dropLast, ls.getLast h, (List.dropLast_append_getLast h).symm⟩
  have : pre ++ ((init ++ [last]).map (fun l => l ++ c!"\n")).flatten =
      (pre ++ (init.map (fun l => l ++ c!"\n")).flatten ++ last) ++ ['\n'] := by
    simp only [List.map_append, List.map_cons, List.map_nil, List.flatten_append, List.flatten_cons,
      List.flatten_nil, List.append_nil, List.append_assoc]
  rw [this, List.getLast?_concat]

theorem stdout_total (f : Flags) (stdin : List Str) :
    ∃ out, Prompts.stdout f stdin = some out ∧ out.getLast? = some '\n' := by
  unfold Prompts.stdout
  simp only []
  split
  · rename_i s _
    obtain ⟨ls, hls, hne⟩ := reportMsg_some f s
    rw [hls]
    exact ⟨_, rfl, by simpa using render_last [] ls hne⟩
  · split
    · exact ⟨_, rfl, List.getLast?_concat ..⟩
    · rename_i s _
      obtain ⟨ls, hls, hne⟩ := reportMsg_some f s
      rw [hls]
      exact ⟨_, rfl, render_last _ ls hne⟩

end Cvss.Props.C17
