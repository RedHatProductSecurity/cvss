/-
  C13 — totality without hypotheses (uses C04Final: no constructor lets a foreign exception escape).
-/
import Cvss.Props.C13
import Cvss.Props.C04Final
namespace Cvss.Props.C13
open Cvss Cvss.Model.Extract

/-- `parse_cvss_from_text` never raises, for any text and any `\d` predicate -/
theorem parseText_never_raises (isDigit : Char → Bool) (text : Str) : (parseText isDigit text).isSome = true := by
  refine Option.isSome_iff_exists.2 ⟨_, (collect_eq_some _ [] _).2 ⟨fun m _ => ?_, rfl⟩⟩
  unfold candidate
  split
  · exact C04.no_foreign_exception .v3 m
  · exact C04.no_foreign_exception .v2 m

end Cvss.Props.C13
