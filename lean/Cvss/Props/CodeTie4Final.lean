/-
  What the text of cvss4.py itself does: `construct_eq` (it includes `compute_base_score`) composed with the
  grammar theorems of C04.
-/
import Cvss.Props.CodeTie4Ctor
import Cvss.Props.C04Final
namespace Cvss.Props.CodeTie4
open Cvss Cvss.Gen Cvss.Model Cvss.Spec.Grammar

/-- `CVSS4(s)` as translated from the source text succeeds exactly on the strings of the v4 grammar -/
theorem source_v4_construct_accepts_iff (s : Str) : (∃ x, Code4.construct s = .ok x) ↔ Accepts g4 s :=
  (Py.accepts_iff (construct_eq s)).trans (C04.v4_construct_accepts_iff s)

/-- … and otherwise raises the malformed or the mandatory class: no exception escapes the hierarchy -/
theorem source_v4_construct_outcomes (s : Str) :
    (∃ x, Code4.construct s = .ok x) ∨
      ∃ e, Code4.construct s = .error e ∧ (e.toErr = .malformed ∨ e.toErr = .mandatory) :=
  Py.outcomes_of AnyObj.o4 (construct_eq s) (C04.construct_outcomes .v4 s)

theorem source_v4_construct_mandatory_iff (s : Str) :
    (∃ e, Code4.construct s = .error e ∧ e.toErr = .mandatory) ↔ LacksMandatory g4 s :=
  (Py.raises_iff (construct_eq s) .mandatory).trans (C04.v4_construct_mandatory_iff s)

/-- what the translated constructor leaves on an accepted vector is what the model's object holds: the
    score `Model.V4.baseScore` computes (= the specification's algorithm by `C02.v4_build_eq_spec`) and
    its rating -/
theorem source_v4_construct_scores (s : Str) (x : Code4.Self) (hx : Code4.construct s = .ok x) :
    ∃ o, V4.construct s = .ok o ∧ x.original_metrics = o.orig ∧ x.metrics = o.metrics ∧
      x.base_score = some o.base ∧ x.severity = some o.severity := by
  obtain ⟨o, ho, hv⟩ := Py.ok_of_ok (construct_eq s) hx
  simp only [Prod.mk.injEq] at hv
  exact ⟨o, ho, hv.2.1, hv.2.2.1, hv.2.2.2.1, hv.2.2.2.2⟩

end Cvss.Props.CodeTie4
