/-
  C17 — the command-line calculator reports what the library computes (never crashes: C17Final).
-/
import Cvss.Model.Cli
namespace Cvss.Props.C17
open Cvss Cvss.Model Cvss.Model.Cli

theorem dispatch (f : Flags) :
    (f.f2 = true → version f = .i2) ∧
    (f.f2 = false → f.f3 = true → version f = .i30) ∧
    (f.f2 = false → f.f3 = false → f.f4 = true → version f = .i4) ∧
    (f.f2 = false → f.f3 = false → f.f4 = false → version f = .i31) := by
  unfold version
  refine ⟨fun h2 => ?_, fun h2 h3 => ?_, fun h2 h3 h4 => ?_, fun h2 h3 h4 => ?_⟩
  all_goals simp only [*, Bool.false_eq_true, if_true, if_false]

/-- with `-v VECTOR` (non-empty) the outcome is the report of the library's results for that vector and
    never end-of-input; it crashes only if there is no report: the library raises a foreign exception, or
    `as_json` fails under `-j` (both excluded in C17Final) -/
theorem main_with_vector (f : Flags) (s : Str) (stdin : List Str) (hs : s ≠ []) (hv : f.vector = some s) :
    main f stdin = match report f s with
      | some ls => .lines ls
      | none => .crash := by
  unfold main
  simp only [hv, if_neg hs]
  rfl  -- the statement's `match` and `main`'s are two matchers with the same cases

/-- the lines printed for a score slot: name, padding to column 24, the score as the API's float prints, and
    (v3/v4) the rating in parentheses -/
def scoreLine (v : Interactive.IVer) (o : AnyObj) (p : Str × Nat) : Option Str :=
  match scoreText v o p.2 with
  | none => none
  | some t => some (p.1 ++ c!":" ++ List.replicate (PAD - p.1.length - 2) ' ' ++ t)

/-- valid vector: the report consists of the class header, one line per score the API's `scores()` has (v3 / v4: with
    the rating from `severities()`), the API's clean vector and Red Hat vector, and with `-j` a title line and the
    `json.dumps(indent=2)` lines of the API's sorted minimal `as_json()`, if that succeeds -/
theorem report_valid (f : Flags) (s : Str) (o : AnyObj) (h : construct (classOf (version f)) s = .ok o) :
    report f s =
      (if f.json then (o.asJson true true).map (fun j =>
          [match version f with | .i2 => c!"CVSS2" | .i4 => c!"CVSS4" | _ => c!"CVSS3"] ++
          scoreNames.zipIdx.filterMap (scoreLine (version f) o) ++
          [c!"Cleaned vector:        " ++ o.clean, c!"Red Hat vector:        " ++ o.rh] ++
          [c!"CVSS vector in JSON:"] ++ jsonLines j)
       else some (
          [match version f with | .i2 => c!"CVSS2" | .i4 => c!"CVSS4" | _ => c!"CVSS3"] ++
          scoreNames.zipIdx.filterMap (scoreLine (version f) o) ++
          [c!"Cleaned vector:        " ++ o.clean, c!"Red Hat vector:        " ++ o.rh])) := by
  unfold report
  simp only [h]
  cases f.json with
  | false => rfl
  | true => cases hj : o.asJson true true <;> rfl

/-- invalid vector (an error of the library's own hierarchy): exactly one line, the library's error message -/
theorem report_invalid (f : Flags) (s : Str) (e : Err) (h : construct (classOf (version f)) s = .error e)
    (he : e ≠ .foreign) : report f s = some [errorLine] := by
  cases e with
  | foreign => exact absurd rfl he
  | _ => simp only [report, h]

/-- without `-v` (or with an empty VECTOR) the vector comes from the interactive builder for the selected
    version; end of input there ends the program cleanly -/
theorem main_interactive (f : Flags) (stdin : List Str) (hv : f.vector = none ∨ f.vector = some []) :
    main f stdin =
      match Interactive.ask (version f) f.all stdin with
      | .eof _ => .eof
      | .keyError => .crash
      | .result s _ _ => (match report f s with | some ls => .lines ls | none => .crash) := by
  unfold main
  rcases hv with hv | hv <;> rw [hv] <;> rfl

end Cvss.Props.C17
