/-
  C11 — JSON output is faithful to the object; sort and minimal only reorder / omit.
-/
import Cvss.Lemmas.Json
namespace Cvss.Props.C11
open Cvss Cvss.Model

/-- JSON keys are pairwise distinct and none collides with a score / rating / header key: a check on the
    key table as a whole (that no `data[k] = …` of a particular `as_json` overwrites another field is
    `Model.KeysFresh`, decided per class by `Model.allKeys2/3/4_nodup`) -/
def keysDistinct (jk : List (Str × Str)) : Bool :=
  let ks := jk.map (·.2) ++ [c!"version", c!"vectorString", c!"baseScore", c!"baseSeverity", c!"temporalScore",
    c!"temporalSeverity", c!"environmentalScore", c!"environmentalSeverity"]
  decide ks.Nodup

theorem json_keys_distinct :
    keysDistinct Gen.V2.jsonKeys = true ∧ keysDistinct Gen.V3.jsonKeys = true ∧ keysDistinct Gen.V4.jsonKeys = true := by
  decide +kernel

/-- re-exports into the property's namespace (also `C20.strLt_irrefl`) -/
theorem sortObj_perm (o : JObj) : (sortObj o).Perm o := sortObj_perm' o

theorem sortObj_sorted (o : JObj) : (sortObj o).Pairwise (fun a b => strLt b.1 a.1 = false) :=
  sortObj_sorted' o

/-- `sort=True` is `sort=False` followed by sorting (so: same items, ascending key order) -/
theorem asJson_sort (o : AnyObj) (minimal : Bool) :
    o.asJson true minimal = (o.asJson false minimal).map sortObj := by
  cases o with
  | o2 o => simp only [AnyObj.asJson, asJson2_run, runJson_sort]
  | o3 o => simp only [AnyObj.asJson, asJson3_run, runJson_sort]
  | o4 o => simp only [AnyObj.asJson, asJson4_run, runJson_sort]

/-- the emitted keys are pairwise distinct (so look-ups in the sorted and the unsorted object agree:
    `asJson_sort_lookup`) -/
theorem asJson_keys_nodup (o : AnyObj) (sort minimal : Bool) (j : JObj) (h : o.asJson sort minimal = some j) :
    (keys j).Nodup := by
  cases o with
  | o2 o => exact (runJson_spec (fresh2 o minimal) ((asJson2_run o sort minimal).symm.trans h)).1
  | o3 o => exact (runJson_spec (fresh3 o minimal) ((asJson3_run o sort minimal).symm.trans h)).1
  | o4 o => exact (runJson_spec (fresh4 o) ((asJson4_run o sort minimal).symm.trans h)).1

theorem asJson_sort_lookup (o : AnyObj) (minimal : Bool) (j js : JObj)
    (h : o.asJson false minimal = some j) (hs : o.asJson true minimal = some js) (k : Str) :
    lookup k js = lookup k j := by
  have hn := asJson_keys_nodup o true minimal js hs
  rw [asJson_sort, h] at hs
  cases hs
  exact lookup_perm _ _ (sortObj_perm j) hn k

/-! The field theorems are read off `runJson_spec`; an item is pointed at by its position in the header
    or among the extra items of its block. -/

def groupKeys (jk : List (Str × Str)) (ms : List Str) : List Str := ms.filterMap (fun m => lookup m jk)

theorem allKeys2_mem : (∀ k ∈ allKeys2, k ∈ [c!"version", c!"vectorString", c!"baseScore", c!"temporalScore",
        c!"environmentalScore"] ++ groupKeys Gen.V2.jsonKeys (keys Gen.V2.abbrs)) ∧
    (∀ k ∈ [c!"version", c!"vectorString", c!"baseScore", c!"temporalScore",
        c!"environmentalScore"] ++ groupKeys Gen.V2.jsonKeys (keys Gen.V2.abbrs), k ∈ allKeys2) := by
  decide +kernel

theorem asJson2_full (o : V2.Obj) (j : JObj) (h : asJson2 o false false = some j) :
    lookup c!"version" j = some (.str c!"2.0") ∧ lookup c!"vectorString" j = some (.str o.vector) ∧
    lookup c!"baseScore" j = some (.num o.base) ∧
    lookup c!"temporalScore" j = some (.num (o.temporal.getD 0)) ∧
    lookup c!"environmentalScore" j = some (.num (o.env.getD 0)) ∧
    (∀ m ∈ keys Gen.V2.abbrs, ∃ key d, lookup m Gen.V2.jsonKeys = some key ∧ V2.getDescription o.metrics m = some d ∧
        lookup key j = some (.str (us2 d))) ∧
    (∀ k, k ∈ keys j ↔ k ∈ [c!"version", c!"vectorString", c!"baseScore", c!"temporalScore", c!"environmentalScore"] ++
        groupKeys Gen.V2.jsonKeys (keys Gen.V2.abbrs)) := by
  rw [asJson2_run] at h
  have hn := fresh2 o false
  obtain ⟨-, -, hk, hg⟩ := runJson_spec hn h
  have gMand : _ ∈ onGroups (blocks2 o false) := .head _
  have gTemp : _ ∈ onGroups (blocks2 o false) := .tail _ (.head _)
  have gEnv : _ ∈ onGroups (blocks2 o false) := .tail _ (.tail _ (.head _))
  refine ⟨runJson_header hn h (.head _), runJson_header hn h (.tail _ (.head _)),
    runJson_header hn h (.tail _ (.tail _ (.head _))),
    runJson_extra hn h gTemp (.head _), runJson_extra hn h gEnv (.head _), ?_, ?_⟩
  · intro m hmem
    rcases (groups2_mem m).1 hmem with hm | hm | hm
    · exact hg _ gMand m hm
    · exact hg _ gTemp m hm
    · exact hg _ gEnv m hm
  · intro k
    rw [hk]
    exact ⟨allKeys2_mem.1 k, allKeys2_mem.2 k⟩

/-- v2: `minimal=True` removes exactly the temporal group (its three metric fields and temporalScore) when
    the temporal score is undefined, exactly the environmental group when the environmental score is
    undefined, and nothing else; every field that remains is unchanged -/
theorem asJson2_minimal (o : V2.Obj) (jf jm : JObj) (hf : asJson2 o false false = some jf)
    (hm : asJson2 o false true = some jm) :
    (∀ k v, lookup k jm = some v → lookup k jf = some v) ∧
    (∀ k, k ∈ keys jf → (k ∈ keys jm ↔
      ¬ ((o.temporal = none ∧ k ∈ c!"temporalScore" :: groupKeys Gen.V2.jsonKeys Gen.V2.temporal) ∨
         (o.env = none ∧ k ∈ c!"environmentalScore" :: groupKeys Gen.V2.jsonKeys Gen.V2.environmental)))) := by
  rw [asJson2_run] at hf hm
  obtain ⟨-, hlf, hkf, -⟩ := runJson_spec (fresh2 o false) hf
  obtain ⟨-, hlm, hkm, -⟩ := runJson_spec (fresh2 o true) hm
  constructor
  · intro k v hl
    rw [hlm] at hl
    rw [hlf]
    rcases List.mem_append.1 hl with h | h
    · exact List.mem_append_left _ h
    · exact List.mem_append_right _ ((sublist_flatMap (onGroups_sublist (blocks2 o true)) _).subset h)
  · intro k hk
    rw [hkm, mem_on_keys_iff (fresh2 o true) ((hkf k).1 hk), blocks2, off_blocks_iff]
    simp only [Bool.not_true, Bool.false_or, Option.isSome_eq_false_iff, Option.isNone_iff_eq_none]
    rfl  -- two spellings of one key list

theorem asJson3_full (o : V3.Obj) (j : JObj) (h : asJson3 o false false = some j) :
    lookup c!"version" j = some (.str (c!"3." ++ natToStr o.minor)) ∧ lookup c!"vectorString" j = some (.str o.vector) ∧
    lookup c!"baseScore" j = some (.num o.base) ∧ lookup c!"baseSeverity" j = some (.str (us3 (V3.sevOf o.base))) ∧
    lookup c!"temporalScore" j = some (.num o.temporal) ∧
    lookup c!"temporalSeverity" j = some (.str (us3 (V3.sevOf o.temporal))) ∧
    lookup c!"environmentalScore" j = some (.num o.env) ∧
    lookup c!"environmentalSeverity" j = some (.str (us3 (V3.sevOf o.env))) ∧
    (∀ m ∈ keys Gen.V3.abbrs, ∃ key d, lookup m Gen.V3.jsonKeys = some key ∧ V3.getDescription o.metrics m = some d ∧
        lookup key j = some (.str (us3 d))) := by
  rw [asJson3_run] at h
  have hn := fresh3 o false
  have gMand : _ ∈ onGroups (blocks3 o false) := .head _
  have gTemp : _ ∈ onGroups (blocks3 o false) := .tail _ (.head _)
  have gEnv : _ ∈ onGroups (blocks3 o false) := .tail _ (.tail _ (.head _))
  refine ⟨runJson_header hn h (.head _), runJson_header hn h (.tail _ (.head _)),
    runJson_extra hn h gMand (.head _), runJson_extra hn h gMand (.tail _ (.head _)),
    runJson_extra hn h gTemp (.head _), runJson_extra hn h gTemp (.tail _ (.head _)),
    runJson_extra hn h gEnv (.head _), runJson_extra hn h gEnv (.tail _ (.head _)), ?_⟩
  intro m hmem
  have hg := (runJson_spec hn h).2.2.2
  rcases (groups3_mem m).1 hmem with hm | hm | hm
  · exact hg _ gMand m hm
  · exact hg _ gTemp m hm
  · exact hg _ gEnv m hm

/-- v3: `minimal=True` removes exactly the temporal group when no temporal metric occurs in the input,
    exactly the environmental group when no environmental metric occurs in the input, nothing else -/
theorem asJson3_minimal (o : V3.Obj) (jf jm : JObj) (hf : asJson3 o false false = some jf)
    (hm : asJson3 o false true = some jm) :
    (∀ k v, lookup k jm = some v → lookup k jf = some v) ∧
    (∀ k, k ∈ keys jf → (k ∈ keys jm ↔
      ¬ (((∀ m ∈ Gen.V3.temporal, lookup m o.orig = none) ∧
            k ∈ [c!"temporalScore", c!"temporalSeverity"] ++ groupKeys Gen.V3.jsonKeys Gen.V3.temporal) ∨
         ((∀ m ∈ Gen.V3.environmental, lookup m o.orig = none) ∧
            k ∈ [c!"environmentalScore", c!"environmentalSeverity"] ++ groupKeys Gen.V3.jsonKeys Gen.V3.environmental)))) := by
  rw [asJson3_run] at hf hm
  obtain ⟨-, hlf, hkf, -⟩ := runJson_spec (fresh3 o false) hf
  obtain ⟨-, hlm, hkm, -⟩ := runJson_spec (fresh3 o true) hm
  constructor
  · intro k v hl
    rw [hlm] at hl
    rw [hlf]
    rcases List.mem_append.1 hl with h | h
    · exact List.mem_append_left _ h
    · exact List.mem_append_right _ ((sublist_flatMap (onGroups_sublist (blocks3 o true)) _).subset h)
  · intro k hk
    rw [hkm, mem_on_keys_iff (fresh3 o true) ((hkf k).1 hk), blocks3, off_blocks_iff]
    simp only [Bool.not_true, Bool.false_or, List.any_eq_false, hasKey, Bool.not_eq_true,
      Option.isSome_eq_false_iff, Option.isNone_iff_eq_none]
    rfl

/-- v4: the vector string, base score and severity, and every metric field (the `version` field is not
    stated); `minimal` has no effect -/
theorem asJson4_full (o : V4.Obj) (sort minimal : Bool) (j : JObj) (h : asJson4 o sort minimal = some j) :
    lookup c!"vectorString" j = some (.str o.vector) ∧ lookup c!"baseScore" j = some (.num o.base) ∧
    lookup c!"baseSeverity" j = some (.str o.severity) ∧
    (∀ m ∈ Gen.V4.metricsOrder, ∃ key d, lookup m Gen.V4.jsonKeys = some key ∧ V4.getDescription o.metrics m = some d ∧
        lookup key j = some (.str (us3 d))) ∧
    asJson4 o sort true = asJson4 o sort false := by
  rw [asJson4_run] at h
  have hn := fresh4 o
  exact ⟨runJson_header hn h (.tail _ (.head _)), runJson_extra hn h (.head _) (.head _),
    runJson_extra hn h (.head _) (.tail _ (.head _)), (runJson_spec hn h).2.2.2 _ (.head _), rfl⟩

end Cvss.Props.C11
