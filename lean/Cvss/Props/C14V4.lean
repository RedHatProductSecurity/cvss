/-
  C14 — v4.0: a more severe effective value of any scoring metric never lowers the score.  The statements speak of
  `lv a k` (`Lemmas/V4Levels.lean`): the severity level of the effective value of metric `k`, 0 = most severe.
-/
import Cvss.Spec.V4
import Cvss.Lemmas.V4Levels
import Cvss.Lemmas.V4Mono
import Cvss.Props.C14V4Tables
namespace Cvss.Props.C14
open Cvss Cvss.Lemmas.V4Search Cvss.Lemmas.V4Mono

/-- the 14 metrics that have severity levels (0 = most severe) -/
def levelMetrics : List Str :=
  [c!"AV", c!"PR", c!"UI", c!"AC", c!"AT", c!"VC", c!"VI", c!"VA", c!"SC", c!"SI", c!"SA", c!"CR", c!"IR", c!"AR"]

/-- level of the effective Exploit Maturity: Attacked 0, POC 1, Unreported 2 -/
def lvE (a : Str → Str) : Nat :=
  if Spec.V4.eff a c!"E" = c!"A" then 0 else if Spec.V4.eff a c!"E" = c!"P" then 1 else 2

/-- a legal effective Exploit Maturity.  The step theorems state it to say which assignments they speak of; their
    proofs do not use it, because `lvE` and the specification's EQ5 test both treat every other token as Unreported. -/
def LegalE (a : Str → Str) : Prop :=
  Spec.V4.eff a c!"E" = c!"A" ∨ Spec.V4.eff a c!"E" = c!"P" ∨ Spec.V4.eff a c!"E" = c!"U"

theorem eq5_lvE (a : Str → Str) : (Spec.V4.macroVector a).eq5 = lvE a := by
  unfold Spec.V4.macroVector lvE
  simp only [decide_eq_true_eq]

theorem group_split : ∀ k ∈ levelMetrics, ∃ g, g < 4 ∧ k ∈ (grp g).keys := by decide +kernel

theorem keys_levelMetrics : ∀ g < 4, ∀ i ∈ (grp g).keys, i ∈ levelMetrics := by decide +kernel

theorem keys_disjoint : ∀ g < 4, ∀ j < 4, j = g ∨ ∀ i ∈ (grp j).keys, i ∉ (grp g).keys := by decide +kernel

theorem noImpact_mono {a a' : Str → Str} (ha : LegalEff a) (ha' : LegalEff a')
    (h : ∀ i ∈ levelMetrics, lv a' i ≤ lv a i) :
    Spec.V4.noImpact a' = true → Spec.V4.noImpact a = true := by
  rw [noImpact_lv ha, noImpact_lv ha']
  simp only [Bool.and_eq_true, beq_iff_eq]
  have b1 := lv_bounds ha c!"VC" 0 3
  have b2 := lv_bounds ha c!"VI" 0 3
  have b3 := lv_bounds ha c!"VA" 0 3
  have b4 := lv_bounds ha c!"SC" 1 4
  have b5 := lv_bounds ha c!"SI" 0 4
  have b6 := lv_bounds ha c!"SA" 0 4
  have h1 := h c!"VC" (by decide)
  have h2 := h c!"VI" (by decide)
  have h3 := h c!"VA" (by decide)
  have h4 := h c!"SC" (by decide)
  have h5 := h c!"SI" (by decide)
  have h6 := h c!"SA" (by decide)
  omega

/-- `v4_step_mono` on the levels: one falls by one, the others and E's are kept -/
theorem level_step_mono {a a' : Str → Str} (ha : LegalEff a) (ha' : LegalEff a') {k : Str}
    (hk : k ∈ levelMetrics) (hstep : lv a' k + 1 = lv a k)
    (hlv : ∀ j ∈ levelMetrics, j ≠ k → lv a' j = lv a j) (h5 : lvE a' = lvE a) :
    ∀ x y, Spec.V4.score a = some x → Spec.V4.score a' = some y → x ≤ y := by
  obtain ⟨g, hg, hkg⟩ := group_split k hk
  refine score_mono_of (Lemmas.V4Table.rawScore_rawN a) (Lemmas.V4Table.rawScore_rawN a') ?_ (noImpact_mono ha ha' fun i hi => ?_)
  · exact raw_step ha ha' hg (chk_all g hg) hkg hstep
      (fun i hi hne => hlv i (keys_levelMetrics g hg i hi) hne)
      (fun j hj hne i hi => hlv i (keys_levelMetrics j hj i hi) fun h =>
        (keys_disjoint g hg j hj).resolve_left hne i hi (h ▸ hkg))
      (by rw [eq5_lvE, eq5_lvE, h5])
  · by_cases hik : i = k
    · subst hik
      omega
    · exact (hlv i hi hik).le

theorem level_step_mono_E {a a' : Str → Str} (ha : LegalEff a) (ha' : LegalEff a')
    (hstep : lvE a' + 1 = lvE a) (hlv : ∀ j ∈ levelMetrics, lv a' j = lv a j) :
    ∀ x y, Spec.V4.score a = some x → Spec.V4.score a' = some y → x ≤ y := by
  refine score_mono_of (Lemmas.V4Table.rawScore_rawN a) (Lemmas.V4Table.rawScore_rawN a') ?_ (noImpact_mono ha ha' fun i hi => (hlv i hi).le)
  exact raw_step_E ha ha' chk_g5 (fun j hj i hi => hlv i (keys_levelMetrics j hj i hi))
    (by rw [eq5_lvE, eq5_lvE]; exact hstep)

/-- `a'` differs from `a` only in the effective value of metric `k`, which is ONE
    severity step more severe in `a'`; then the score of `a'` is not lower.  (Effective values: this covers base
    metrics, Modified overrides, undefined CR/IR/AR = High, in every spelling.) -/
theorem v4_step_mono (a a' : Str → Str) (ha : LegalEff a) (ha' : LegalEff a') (hE : LegalE a)
    (k : Str) (hk : k ∈ levelMetrics) (hstep : lv a' k + 1 = lv a k)
    (hsame : ∀ j ∈ levelMetrics, j ≠ k → Spec.V4.eff a' j = Spec.V4.eff a j)
    (hsameE : Spec.V4.eff a' c!"E" = Spec.V4.eff a c!"E") :
    ∀ x y, Spec.V4.score a = some x → Spec.V4.score a' = some y → x ≤ y := by
  -- unused (see `LegalE`); mentioned so that the linter accepts the statement
  have _ := hE
  refine level_step_mono ha ha' hk hstep (fun j hj hne => ?_) ?_
  · unfold lv
    rw [hsame j hj hne]
  · unfold lvE
    rw [hsameE]

/-- likewise for one step of E (Unreported → POC → Attacked) -/
theorem v4_step_mono_E (a a' : Str → Str) (ha : LegalEff a) (ha' : LegalEff a') (hE : LegalE a) (hE' : LegalE a')
    (hstep : lvE a' + 1 = lvE a) (hsame : ∀ j ∈ levelMetrics, Spec.V4.eff a' j = Spec.V4.eff a j) :
    ∀ x y, Spec.V4.score a = some x → Spec.V4.score a' = some y → x ≤ y := by
  have _ := hE
  have _ := hE'
  refine level_step_mono_E ha ha' hstep fun j hj => ?_
  unfold lv
  rw [hsame j hj]

end Cvss.Props.C14
