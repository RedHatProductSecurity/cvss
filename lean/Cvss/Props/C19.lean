/-
  C19 — results depend only on the input: no hidden state or ambient dependence.
  The arithmetic part: the v3 scores do not change when the impact of the Changed-scope branch (`isc`,
  `modified_isc` in cvss3.py) is perturbed by up to 10⁻⁷: the exact value is never that close to a rounding
  boundary or to the `≤ 0` test.  That covers `decimal`: cvss3.py's only inexact `Decimal` operations are the
  powers (`** 15` / `** 13`) in that branch and the few operations that consume their result, and
  at a precision of 28 digits or more, whatever the rounding mode, their error is far below 10⁻⁷; this
  last step is an argument about `decimal`, not a theorem here.
-/
import Cvss.Model.Any
import Cvss.Spec.V3
import Cvss.Lemmas.Robust
import Cvss.Lemmas.Values3
namespace Cvss.Props.C19
open Cvss Cvss.Model

/-- the v2 scores depend on the metric map only through its look-ups (not on insertion order or
    any other state) -/
theorem v2_scores_lookup_only (m m' : MMap) (h : ∀ k, lookup k m = lookup k m') :
    V2.computeScores m = V2.computeScores m' := by
  -- the map is read by `getValue` and `allND` only, and both are look-ups
  have hg : V2.getValue m = V2.getValue m' := by
    funext a
    simp only [V2.getValue, h]
  have hn : V2.allND m = V2.allND m' := by
    funext g
    simp only [V2.allND, h]
  simp only [V2.computeScores, V2.baseScore, V2.baseEq, V2.temporalEq, V2.impactEq,
    V2.adjustedImpactEq, hg, hn]

/-- `C14.Legal3` says the same with the clauses for MPR and MS written apart; neither is derived from
    the other -/
def Legal3 (a : Str → Str) : Prop :=
  (∀ p ∈ Spec.V3.weights, (lookup (a p.1) p.2).isSome) ∧
  (a c!"PR" = c!"N" ∨ a c!"PR" = c!"L" ∨ a c!"PR" = c!"H") ∧ (a c!"S" = c!"U" ∨ a c!"S" = c!"C") ∧
  (∀ M ∈ [c!"MAV", c!"MAC", c!"MPR", c!"MUI", c!"MS", c!"MC", c!"MI", c!"MA"],
      a M = c!"X" ∨ (lookup (a M) ((lookup (M.drop 1) Spec.V3.weights).getD [])).isSome ∨
      (M = c!"MPR" ∧ (a M = c!"N" ∨ a M = c!"L" ∨ a M = c!"H")) ∨ (M = c!"MS" ∧ (a M = c!"U" ∨ a M = c!"C")))

open Cvss.Lemmas.Num3 Cvss.Lemmas.Spec3 Cvss.Lemmas.Values3 Cvss.Lemmas.Robust

theorem legal_eff_w {a : Str → Str} (ha : Legal3 a) {M base : Str}
    (hM : M ∈ [c!"MAV", c!"MAC", c!"MPR", c!"MUI", c!"MS", c!"MC", c!"MI", c!"MA"])
    (hb : M.drop 1 = base) (hbase : base ∈ Spec.V3.weights.map (·.1)) :
    Spec.V3.w base (Spec.V3.eff a M base) ∈ rowVals base := by
  unfold Spec.V3.eff
  split
  · exact legalW_w ha.1 hbase
  · rename_i hx
    rcases ha.2.2.2 M hM with h | h | ⟨h, _⟩ | ⟨h, _⟩
    · exact absurd h hx
    · rw [hb] at h; exact w_mem_rowVals h
    · subst h; subst hb; exact absurd hbase (by decide)
    · subst h; subst hb; exact absurd hbase (by decide)

theorem legal_eff_pr {a : Str → Str} (ha : Legal3 a) :
    Spec.V3.eff a c!"MPR" c!"PR" ∈ [c!"N", c!"L", c!"H"] := by
  unfold Spec.V3.eff
  split
  · simpa using ha.2.1
  · rename_i hx
    rcases ha.2.2.2 c!"MPR" (by decide) with h | h | ⟨_, h⟩ | ⟨h, _⟩
    · exact absurd h hx
    · exfalso
      have h0 : (lookup (List.drop 1 c!"MPR") Spec.V3.weights).getD [] = [] := by decide +kernel
      rw [h0] at h
      simp [lookup] at h
    · simpa using h
    · exact absurd h (by decide)

theorem grid_ok : ∀ minor ∈ [0, 1], ∀ n ∈ missN, ∀ p ∈ explNN, okPairN (miZ minor n) p.2 = true := by
  decide +kernel

theorem okPair_grid (minor : Nat) {v : ℚ} (hv : v ∈ missVals) {eU eC : ℚ}
    (he : (eU, eC) ∈ explPairs) : OkPair (Spec.V3.modifiedImpact minor true v) eC := by
  obtain ⟨n, hn, rfl⟩ := List.mem_map.1 hv
  obtain ⟨p, hp, e⟩ := List.mem_map.1 he
  obtain ⟨-, rfl⟩ := Prod.mk.inj e
  have hg : ∀ m ∈ [0, 1], OkPair (Spec.V3.modifiedImpact m true (Spec.V3.r n 1000000))
      (Spec.V3.r p.2 10000000000) := by
    intro m hm
    have e : Spec.V3.r (p.2 : ℤ) 10000000000 = (p.2 : ℚ) / 10 ^ 10 := by
      rw [Spec.V3.r, Rat.mkRat_eq_div]
      norm_num
    rw [miZ_spec, e]
    exact okPairN_spec (grid_ok m hm n hn p hp)
  rcases Nat.eq_zero_or_pos minor with rfl | hm
  · exact hg 0 (by decide)
  · rw [modifiedImpact_minor (Nat.pos_iff_ne_zero.mp hm)]
    exact hg 1 (by decide)

/-- base score computed with the impact perturbed by `ε` when Scope is Changed: the text of
    `Spec.V3.baseScore` with `+ ε`, to be edited in step with it (likewise `environmentalScoreP`) -/
def baseScoreP (a : Str → Str) (ε : Rat) : Rat :=
  let iss := 1 - (1 - Spec.V3.w c!"C" (a c!"C")) * (1 - Spec.V3.w c!"I" (a c!"I")) * (1 - Spec.V3.w c!"A" (a c!"A"))
  let changed := a c!"S" = c!"C"
  let imp := Spec.V3.impact changed iss + (if changed then ε else 0)
  let expl := Spec.V3.r 822 100 * Spec.V3.w c!"AV" (a c!"AV") * Spec.V3.w c!"AC" (a c!"AC") *
      Spec.V3.prWeight changed (a c!"PR") * Spec.V3.w c!"UI" (a c!"UI")
  if imp ≤ 0 then 0
  else if changed then Spec.V3.roundup (min (Spec.V3.r 108 100 * (imp + expl)) 10)
  else Spec.V3.roundup (min (imp + expl) 10)

theorem v3_base_decimal_robust (a : Str → Str) (ha : Legal3 a) (ε : Rat) (hε : -(1 / 10000000) ≤ ε ∧ ε ≤ 1 / 10000000) :
    baseScoreP a ε = Spec.V3.baseScore a := by
  rw [show baseScoreP a ε = _ from shape_of_ite _ _ _, baseScore_eq_shape]
  by_cases hs : a c!"S" = c!"C"
  · simp only [hs, decide_true, if_true]
    -- the base formula is the v3.0 one (`impact_eq`); `exact` unfolds `kS true` and, left, `issOf` / `explOf`
    rw [impact_eq, impact_eq]
    exact shape_robust (okPair_grid 0
      (issVals_sub (issOf_mem (legalW_w ha.1 (by decide)) (legalW_w ha.1 (by decide))
        (legalW_w ha.1 (by decide))))
      (explOf_mem (legalW_w ha.1 (by decide)) (legalW_w ha.1 (by decide)) (by simpa using ha.2.1)
        (legalW_w ha.1 (by decide)))) hε.1 hε.2
  · simp only [hs, if_false, add_zero]
    rfl

/-- likewise the text of `Spec.V3.environmentalScore`, perturbed where Modified Scope is Changed -/
def environmentalScoreP (minor : Nat) (a : Str → Str) (ε : Rat) : Rat :=
  let mc := Spec.V3.eff a c!"MC" c!"C"; let mi := Spec.V3.eff a c!"MI" c!"I"; let ma := Spec.V3.eff a c!"MA" c!"A"
  let miss := min (1 - (1 - Spec.V3.w c!"C" mc * Spec.V3.w c!"CR" (a c!"CR")) * (1 - Spec.V3.w c!"I" mi * Spec.V3.w c!"IR" (a c!"IR"))
                      * (1 - Spec.V3.w c!"A" ma * Spec.V3.w c!"AR" (a c!"AR"))) (Spec.V3.r 915 1000)
  let changed := Spec.V3.eff a c!"MS" c!"S" = c!"C"
  let mimp := Spec.V3.modifiedImpact minor changed miss + (if changed then ε else 0)
  let mexpl := Spec.V3.r 822 100 * Spec.V3.w c!"AV" (Spec.V3.eff a c!"MAV" c!"AV") * Spec.V3.w c!"AC" (Spec.V3.eff a c!"MAC" c!"AC")
                 * Spec.V3.prWeight changed (Spec.V3.eff a c!"MPR" c!"PR") * Spec.V3.w c!"UI" (Spec.V3.eff a c!"MUI" c!"UI")
  if mimp ≤ 0 then 0
  else if changed then
    Spec.V3.roundup (Spec.V3.roundup (min (Spec.V3.r 108 100 * (mimp + mexpl)) 10) * Spec.V3.temporalFactor a)
  else Spec.V3.roundup (Spec.V3.roundup (min (mimp + mexpl) 10) * Spec.V3.temporalFactor a)

theorem v3_env_decimal_robust (minor : Nat) (a : Str → Str) (ha : Legal3 a) (ε : Rat) (hε : -(1 / 10000000) ≤ ε ∧ ε ≤ 1 / 10000000) :
    environmentalScoreP minor a ε = Spec.V3.environmentalScore minor a := by
  rw [show environmentalScoreP minor a ε = _ from roundup_shape_of_ite _ _ _ _, env_eq_shape]
  by_cases hs : Spec.V3.eff a c!"MS" c!"S" = c!"C"
  · simp only [hs, decide_true, if_true]
    have hm := missOf_mem (legal_eff_w ha (M := c!"MC") (by decide) rfl (by decide))
      (legalW_w ha.1 (by decide)) (legal_eff_w ha (M := c!"MI") (by decide) rfl (by decide))
      (legalW_w ha.1 (by decide)) (legal_eff_w ha (M := c!"MA") (by decide) rfl (by decide))
      (legalW_w ha.1 (by decide))
    have he := explOf_mem (legal_eff_w ha (M := c!"MAV") (by decide) rfl (by decide))
      (legal_eff_w ha (M := c!"MAC") (by decide) rfl (by decide)) (legal_eff_pr ha)
      (legal_eff_w ha (M := c!"MUI") (by decide) rfl (by decide))
    -- as above, with `missOf` and `explOf` on the left
    exact congrArg (fun x => Spec.V3.roundup (x * Spec.V3.temporalFactor a))
      (shape_robust (okPair_grid minor hm he) hε.1 hε.2)
  · simp only [hs, if_false, add_zero]
    rfl

end Cvss.Props.C19
