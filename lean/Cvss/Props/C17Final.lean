/-
  C17 — never crashes, for every selected version: the constructor raises no foreign exception (C04, which
  rests on the totality of scoring, C01–C03) and `as_json` of what it returns cannot fail (C10, C18).
-/
import Cvss.Props.C17
import Cvss.Props.C10
import Cvss.Props.C16
import Cvss.Props.C18
import Cvss.Props.C04Final
namespace Cvss.Props.C17
open Cvss Cvss.Model Cvss.Model.Cli

theorem construct_asJson_isSome_any (v : Ver) (s : Str) (o : AnyObj) (h : construct v s = .ok o)
    (sort minimal : Bool) : ∃ j, o.asJson sort minimal = some j := by
  cases v with
  | v2 =>
    obtain ⟨o2, hc, rfl⟩ := map_ok_iff.1 h
    obtain ⟨j, hj, -⟩ := C10.v2_json_valid s o2 hc sort minimal
    exact ⟨j, hj⟩
  | v3 =>
    obtain ⟨o3, hc, rfl⟩ := map_ok_iff.1 h
    obtain ⟨j, hj, -⟩ := C10.v3_json_valid s o3 hc sort minimal
    exact ⟨j, hj⟩
  | v4 =>
    obtain ⟨o4, hc, rfl⟩ := map_ok_iff.1 h
    exact Option.isSome_iff_exists.1 (C18.accessors_total_v4 s o4 hc sort minimal)

theorem report_of_error (f : Flags) (s : Str) (e : Err) (h : construct (classOf (version f)) s = .error e) :
    report f s = some [errorLine] :=
  report_invalid f s e h (fun he => C04.no_foreign_exception _ s (he ▸ h))

theorem report_of_ok (f : Flags) (s : Str) (o : AnyObj) (h : construct (classOf (version f)) s = .ok o) :
    ∃ l ls, report f s = some (l :: ls) ∧ ls ≠ [] := by
  obtain ⟨j, hj⟩ := construct_asJson_isSome_any _ s o h true true
  rw [report_valid f s o h, hj]
  cases f.json
  · exact ⟨_, _, rfl, List.append_ne_nil_of_right_ne_nil _ (List.cons_ne_nil _ _)⟩
  · refine ⟨_, _, rfl, List.append_ne_nil_of_left_ne_nil ?_ _⟩
    exact List.append_ne_nil_of_right_ne_nil _ (List.cons_ne_nil _ _)

theorem report_some (f : Flags) (s : Str) : ∃ l ls, report f s = some (l :: ls) := by
  cases hc : construct (classOf (version f)) s with
  | error e => exact ⟨_, _, report_of_error f s e hc⟩
  | ok o =>
    obtain ⟨l, ls, h, -⟩ := report_of_ok f s o hc
    exact ⟨l, ls, h⟩

/-- for every flag set, every VECTOR and every stdin the calculator ends with a report (exit status 0) or a clean end
    of input -/
theorem main_never_crashes_any (f : Flags) (stdin : List Str) : main f stdin ≠ .crash := by
  have hcase : ∀ s, (match report f s with | some ls => Outcome.lines ls | none => Outcome.crash) ≠ .crash := by
    intro s
    obtain ⟨l, ls, h⟩ := report_some f s
    rw [h]
    nofun
  by_cases hvec : f.vector = none ∨ f.vector = some []
  · rw [main_interactive f stdin hvec]
    cases hask : Interactive.ask (version f) f.all stdin with
    | eof a => simp
    | keyError => exact absurd hask (C16.ask_never_keyError _ _ _)
    | result s n a => exact hcase s
  · cases hvs : f.vector with
    | none => exact absurd (Or.inl hvs) hvec
    | some s =>
      have hs : s ≠ [] := by
        rintro rfl
        exact hvec (Or.inr hvs)
      rw [main_with_vector f s stdin hs hvs]
      exact hcase s

/-- `hv` is not used: the statement above holds with CVSS4 selected too -/
theorem main_never_crashes (f : Flags) (stdin : List Str) (hv : version f ≠ .i4) : main f stdin ≠ .crash :=
  main_never_crashes_any f stdin

/-- the calculator's report is something other than the single error line exactly when the selected class accepts the
    vector (then it holds the scores: `report_valid`) -/
theorem report_scores_iff_accepted (f : Flags) (s : Str) :
    (∃ o, construct (classOf (version f)) s = .ok o) ↔ report f s ≠ some [errorLine] ∧ report f s ≠ none := by
  constructor
  · rintro ⟨o, ho⟩
    obtain ⟨l, ls, h, hne⟩ := report_of_ok f s o ho
    rw [h]
    refine ⟨fun he => ?_, nofun⟩
    cases he
    exact hne rfl
  · rintro ⟨h1, -⟩
    cases hc : construct (classOf (version f)) s with
    | ok o => exact ⟨o, rfl⟩
    | error e => exact absurd (report_of_error f s e hc) h1

end Cvss.Props.C17
