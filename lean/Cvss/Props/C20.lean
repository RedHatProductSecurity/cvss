/-
  C20 — identical behaviour on every supported Python.
  No theorem can quantify over interpreters; this file holds the model facts that make the
  interpreter-sensitive outputs order-determined (so that interpreters which correspond to the
  model agree with each other).
-/
import Cvss.Props.C11
namespace Cvss.Props.C20
open Cvss Cvss.Model

theorem strLt_irrefl (s : Str) : strLt s s = false := Model.strLt_irrefl s

/-- the sorted JSON object does not depend on the order in which the fields were inserted (dict
    iteration order differs between interpreters: hash order on 2.7, insertion order from 3.7):
    any two key-distinct objects with the same items sort to the same list -/
theorem sortObj_order_independent (l₁ l₂ : JObj) (hp : l₁.Perm l₂) (hn : (keys l₁).Nodup) :
    sortObj l₁ = sortObj l₂ := by
  have hp' : (sortObj l₁).Perm (sortObj l₂) :=
    ((C11.sortObj_perm l₁).trans hp).trans (C11.sortObj_perm l₂).symm
  have hn' : (keys (sortObj l₁)).Nodup :=
    (List.Perm.map (fun p : Str × JVal => p.1) (C11.sortObj_perm l₁)).nodup_iff.2 hn
  -- two sorted lists with the same items are equal: neither of `a`, `b` below the other means equal keys, and the
  -- keys are distinct
  refine hp'.eq_of_pairwise (fun a b ha hb h1 h2 => ?_) (C11.sortObj_sorted l₁) (C11.sortObj_sorted l₂)
  have k : a.1 = b.1 := eq_of_not_strLt _ _ h2 h1
  have ea := lookup_eq_some_of_mem _ hn' a.1 a.2 ha
  rw [k, lookup_eq_some_of_mem _ hn' b.1 b.2 (hp'.mem_iff.2 hb)] at ea
  exact Prod.ext k (Option.some.inj ea).symm

end Cvss.Props.C20
