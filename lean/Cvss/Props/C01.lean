/-
  C01 — CVSS v3.0/v3.1 scores equal the FIRST specification equations.
  The generated weight tables are the specification's (`weights_pinned`); in the map completed by
  `add_missing_optional` the token `get_value` finds is the effective one, so it weighs what the specification
  says; with these weights the score functions are the specification's equations.  Last, the range of the
  specification's scores for every assignment.
-/
import Cvss.Model.V3
import Cvss.Spec.V3
import Cvss.Lemmas.V3
import Cvss.Lemmas.Spec3
import Cvss.Lemmas.Parse
namespace Cvss.Props.C01
open Cvss Cvss.Model Cvss.Lemmas.Num Cvss.Lemmas.Num3

/-- what the specification's tables say `METRICS_VALUES[metric][token]` must be; a Modified metric is known
    by its first letter (the library's `abbreviation[1:]`; `scored_metric_facts` ties that to `modifiedMetrics`) -/
def expectedWeight (metric token : Str) : Option Rat :=
  if metric = c!"S" ∨ metric = c!"MS" then none
  else if metric.head? = some 'M' ∧ token = c!"X" then none
  else if metric = c!"PR" ∨ metric = c!"MPR" then some (Spec.V3.prWeight false token)
  else if metric.head? = some 'M' then some (Spec.V3.w (metric.drop 1) token)
  else some (Spec.V3.w metric token)

def weightsPinned : Bool :=
  Gen.V3.values.all (fun (m, row) => row.all (fun (t, wgt) => wgt == expectedWeight m t))

/-- every weight the library reads equals the specification's weight -/
theorem weights_pinned : weightsPinned = true := by decide +kernel

/-- likewise the Privileges Required weights under Scope Changed -/
theorem pr_changed_pinned :
    V3.prChanged.all (fun (t, wgt) => wgt == (if t = c!"X" then none else some (Spec.V3.prWeight true t))) = true := by
  decide +kernel

/-- a metric map as a successful `parse` produces it (see C04) -/
def ValidMap (m : MMap) : Prop :=
  (∀ k v, lookup k m = some v → ∃ vs, lookup k V3.tables.legal = some vs ∧ v ∈ vs) ∧
  (∀ k ∈ V3.tables.mandatory, (lookup k m).isSome)

theorem modified_base_mandatory : ∀ a ∈ V3.modifiedMetrics, a.drop 1 ∈ V3.tables.mandatory := by decide +kernel

/-- what `add_missing_optional` makes of the map `m` -/
def Filled (m full : MMap) : Prop :=
  ∀ k, lookup k full =
    if k ∈ V3.modifiedMetrics ∧ assignment V3.X m k = V3.X then lookup (k.drop 1) m else lookup k m

/-- `add_missing_optional` on a valid map succeeds: every Modified metric that is absent or X receives its base
    metric's value, nothing else changes (look-up view of the resulting dict) -/
theorem addMissingOptional_lookup (m : MMap) (hv : ValidMap m) :
    ∃ full, V3.addMissingOptional m V3.modifiedMetrics = some full ∧
      ∀ k, lookup k full =
        if k ∈ V3.modifiedMetrics ∧ assignment V3.X m k = V3.X then lookup (k.drop 1) m else lookup k m := by
  have hbase : ∀ a ∈ V3.modifiedMetrics, (lookup (a.drop 1) m).isSome := fun a ha =>
    hv.2 _ (modified_base_mandatory a ha)
  exact Lemmas.V3.addMissingOptional_spec _ (by decide) (by decide) m hbase

def legalTok (name t : Str) : Prop := t ∈ (lookup name V3.tables.legal).getD []

instance (name t : Str) : Decidable (legalTok name t) := by unfold legalTok; infer_instance

theorem legalTok_of_lookup {m : MMap} (hv : ValidMap m) {k v : Str} (h : lookup k m = some v) :
    legalTok k v := by
  obtain ⟨vs, h1, h2⟩ := hv.1 k v h
  simp [legalTok, h1, h2]

theorem legalTok_row {name t : Str} (h : legalTok name t) :
    ∃ row, lookup name Gen.V3.values = some row ∧ ∃ w, lookup t row = some w := by
  unfold legalTok V3.tables at h
  simp only [lookup_map_keys] at h
  cases hr : lookup name Gen.V3.values with
  | none => simp [hr] at h
  | some row =>
    rw [hr] at h
    exact ⟨row, rfl, lookup_of_mem_keys h⟩

theorem values_pinned {k t : Str} {row : List (Str × Option Rat)} {w : Option Rat}
    (h1 : lookup k Gen.V3.values = some row) (h2 : lookup t row = some w) : w = expectedWeight k t := by
  have h := all_lookup weights_pinned h1
  have h' := all_lookup h h2
  exact eq_of_beq h'

/-- `get_value` outside the Privileges-Required special case -/
theorem getValue_nonpr (c : V3.Ctx) (name v : Str)
    (hpr : ¬ ((name = c!"PR" ∧ c.scope = c!"C") ∨ (name = c!"MPR" ∧ c.modScope = c!"C")))
    (hsv : (lookup name c.metrics).getD V3.X = v) (hl : legalTok name v) :
    V3.getValue c name = expectedWeight name v := by
  obtain ⟨row, h1, w, h2⟩ := legalTok_row hl
  unfold V3.getValue
  simp only [hsv, if_neg hpr, h1, h2]
  exact values_pinned h1 h2

theorem expectedWeight_eq {name tok : Str} (h1 : name ≠ c!"S") (h2 : name ≠ c!"MS")
    (hx : name.head? = some 'M' → tok ≠ V3.X) :
    expectedWeight name tok = some (if name = c!"PR" ∨ name = c!"MPR" then Spec.V3.prWeight false tok
      else Spec.V3.w (if name.head? = some 'M' then name.drop 1 else name) tok) := by
  have hx' : ¬ (name.head? = some 'M' ∧ tok = c!"X") := fun h => hx h.1 h.2
  unfold expectedWeight
  rw [if_neg (not_or.2 ⟨h1, h2⟩), if_neg hx']
  split_ifs <;> rfl

theorem X_eq : Spec.V3.X = V3.X := rfl

/-- the token `get_value` finds for `name` in the completed map -/
def effTok (a : Str → Str) (name : Str) : Str :=
  if name ∈ V3.modifiedMetrics then Spec.V3.eff a name (name.drop 1) else a name

theorem getD_filled {m full : MMap} (hf : Filled m full) (name : Str) :
    (lookup name full).getD V3.X = effTok (assignment V3.X m) name := by
  rw [hf name]
  unfold effTok Spec.V3.eff
  rw [X_eq]
  by_cases hn : name ∈ V3.modifiedMetrics
  · by_cases h : assignment V3.X m name = V3.X
    · rw [if_pos ⟨hn, h⟩, if_pos hn, if_pos h]
      rfl
    · rw [if_neg fun hh => h hh.2, if_pos hn, if_neg h]
      rfl
  · rw [if_neg fun h => hn h.1, if_neg hn]
    rfl

theorem legal_mandatory {m : MMap} (hv : ValidMap m) {name : Str} (hn : name ∈ V3.tables.mandatory) :
    legalTok name (assignment V3.X m name) :=
  legal_getD hv (.inl hn)

theorem modified_accepts_base_tokens : ∀ name ∈ V3.modifiedMetrics,
    ∀ t ∈ (lookup (name.drop 1) V3.tables.legal).getD [], legalTok name t ∧ t ≠ V3.X := by
  decide +kernel

theorem legal_eff {m : MMap} (hv : ValidMap m) {name : Str} (hn : name ∈ V3.modifiedMetrics) :
    legalTok name (Spec.V3.eff (assignment V3.X m) name (name.drop 1)) ∧
      Spec.V3.eff (assignment V3.X m) name (name.drop 1) ≠ V3.X := by
  unfold Spec.V3.eff; rw [X_eq]
  by_cases h : assignment V3.X m name = V3.X
  · rw [if_pos h]
    exact modified_accepts_base_tokens name hn _ (legal_mandatory hv (modified_base_mandatory name hn))
  · rw [if_neg h]
    cases hl : lookup name m with
    | none => exact absurd (by simp [assignment, hl]) h
    | some v =>
      have e : assignment V3.X m name = v := by simp [assignment, hl]
      rw [e] at h ⊢
      exact ⟨legalTok_of_lookup hv hl, h⟩

/-- the context `build` computes the scores in -/
def ctxOf (m full : MMap) : V3.Ctx :=
  { metrics := full, scope := assignment V3.X m c!"S",
    modScope := Spec.V3.eff (assignment V3.X m) c!"MS" c!"S" }

theorem scope_cases {m : MMap} (hv : ValidMap m) :
    assignment V3.X m c!"S" = c!"C" ∨ assignment V3.X m c!"S" = c!"U" := by
  have h := legal_mandatory hv (name := c!"S") (by decide)
  -- membership, not list equality: the order of the value tokens in the generated row is irrelevant
  have e : ∀ t ∈ (lookup c!"S" V3.tables.legal).getD [], t ∈ [c!"C", c!"U"] := by decide +kernel
  unfold legalTok at h
  replace h := e _ h
  simpa using h

theorem modScope_cases {m : MMap} (hv : ValidMap m) :
    Spec.V3.eff (assignment V3.X m) c!"MS" c!"S" = c!"C" ∨
      Spec.V3.eff (assignment V3.X m) c!"MS" c!"S" = c!"U" := by
  obtain ⟨h, hx⟩ := legal_eff hv (name := c!"MS") (by decide)
  have e : ∀ t ∈ (lookup c!"MS" V3.tables.legal).getD [], t ∈ [c!"X", c!"C", c!"U"] := by
    decide +kernel
  unfold legalTok at h
  replace h := e _ h
  simp only [List.mem_cons, List.not_mem_nil, or_false] at h
  rcases h with h | h | h
  · exact absurd h hx
  · exact Or.inl h
  · exact Or.inr h

theorem prChanged_lookup {v : Str} (h : v ∈ [c!"N", c!"L", c!"H"]) :
    lookup v V3.prChanged = some (some (Spec.V3.prWeight true v)) := by
  simp only [List.mem_cons, List.not_mem_nil, or_false] at h
  rcases h with rfl | rfl | rfl <;> decide +kernel

theorem pr_legal : ∀ name ∈ [c!"PR", c!"MPR"],
    ∀ t ∈ (lookup name V3.tables.legal).getD [], t = V3.X ∨ t ∈ [c!"N", c!"L", c!"H"] := by
  decide +kernel

/-- `ch` says whether the scope `get_value` consults for `name` (Scope for PR, Modified Scope for MPR) is
    Changed -/
theorem getValue_PR (c : V3.Ctx) {name tok : Str} {ch : Bool} (hname : name ∈ [c!"PR", c!"MPR"])
    (hch : ((name = c!"PR" ∧ c.scope = c!"C") ∨ (name = c!"MPR" ∧ c.modScope = c!"C")) ↔ ch = true)
    (hsv : (lookup name c.metrics).getD V3.X = tok) (hl : legalTok name tok) (hx : tok ≠ V3.X) :
    V3.getValue c name = some (Spec.V3.prWeight ch tok) := by
  cases ch with
  | true =>
    -- the literal dict of the special case
    have ht := prChanged_lookup ((pr_legal name hname tok hl).resolve_left hx)
    unfold V3.getValue
    simp only [if_pos (hch.2 rfl), hsv, ht]
  | false =>
    rw [getValue_nonpr c name tok (fun h => Bool.false_ne_true (hch.1 h)) hsv hl]
    simp only [List.mem_cons, List.not_mem_nil, or_false] at hname
    rw [expectedWeight_eq (by rcases hname with rfl | rfl <;> decide)
      (by rcases hname with rfl | rfl <;> decide) (fun _ => hx), if_pos hname]

/-- the twenty metrics the score computations ask `get_value` for -/
def scored : List Str :=
  [c!"PR", c!"MPR", c!"MAV", c!"MAC", c!"MUI", c!"MC", c!"MI", c!"MA", c!"C", c!"I", c!"A", c!"AV",
   c!"AC", c!"UI", c!"E", c!"RL", c!"RC", c!"CR", c!"IR", c!"AR"]

theorem metric_kinds : ∀ k ∈ keys Gen.V3.abbrs,
    k ∈ V3.modifiedMetrics ∨ k ∈ V3.tables.mandatory ∨ legalTok k V3.X := by
  decide +kernel

theorem scored_metric_facts : ∀ name ∈ scored, name ∈ keys Gen.V3.abbrs ∧
    name ≠ c!"S" ∧ name ≠ c!"MS" ∧ (name.head? = some 'M' ↔ name ∈ V3.modifiedMetrics) := by
  decide +kernel

theorem legal_effTok {m : MMap} (hv : ValidMap m) {name : Str} (hn : name ∈ keys Gen.V3.abbrs) :
    legalTok name (effTok (assignment V3.X m) name) ∧
      (name ∈ V3.modifiedMetrics → effTok (assignment V3.X m) name ≠ V3.X) := by
  unfold effTok
  by_cases hm : name ∈ V3.modifiedMetrics
  · rw [if_pos hm]
    exact ⟨(legal_eff hv hm).1, fun _ => (legal_eff hv hm).2⟩
  · rw [if_neg hm]
    exact ⟨legal_getD hv ((metric_kinds name hn).resolve_left hm), fun h => absurd h hm⟩

/-- the specification's weight of a scored metric under the assignment `a` -/
def specW (a : Str → Str) (name : Str) : ℚ :=
  if name.head? = some 'M' then
    if name = c!"MPR" then
      Spec.V3.prWeight (decide (Spec.V3.eff a c!"MS" c!"S" = c!"C")) (Spec.V3.eff a c!"MPR" c!"PR")
    else Spec.V3.w (name.drop 1) (Spec.V3.eff a name (name.drop 1))
  else if name = c!"PR" then Spec.V3.prWeight (decide (a c!"S" = c!"C")) (a c!"PR")
  else Spec.V3.w name (a name)

theorem getValue_scored {m full : MMap} (hv : ValidMap m) (hf : Filled m full) {name : Str}
    (hn : name ∈ scored) :
    V3.getValue (ctxOf m full) name = some (specW (assignment V3.X m) name) := by
  obtain ⟨hk, h1, h2, hM⟩ := scored_metric_facts name hn
  obtain ⟨hl, hx⟩ := legal_effTok hv hk
  have hsv := getD_filled hf name
  by_cases hP : name = c!"PR"
  · subst hP
    have hX : effTok (assignment V3.X m) c!"PR" ≠ V3.X := fun e =>
      absurd (e ▸ hl) (by decide +kernel)
    exact getValue_PR _ (by decide) (by simp [ctxOf]) hsv hl hX
  by_cases hMP : name = c!"MPR"
  · subst hMP
    exact getValue_PR _ (by decide) (by simp [ctxOf]) hsv hl (hx (by decide))
  · rw [getValue_nonpr _ name _ (fun h => h.elim (fun h => hP h.1) (fun h => hMP h.1)) hsv hl,
      expectedWeight_eq h1 h2 fun h => hx (hM.1 h), if_neg (not_or.2 ⟨hP, hMP⟩), specW, effTok]
    by_cases h : name.head? = some 'M'
    · rw [if_pos h, if_pos h, if_neg hMP, if_pos (hM.1 h)]
    · rw [if_neg h, if_neg h, if_neg hP, if_neg fun e => h (hM.2 e)]

/-- the scored metrics with their specification weights -/
def specWeights (a : Str → Str) : List (Str × Rat) := scored.map fun n => (n, specW a n)

theorem getValue_eq_spec {m full : MMap} (hv : ValidMap m) (hf : Filled m full) :
    ∀ p ∈ specWeights (assignment V3.X m), V3.getValue (ctxOf m full) p.1 = some p.2 := by
  intro p hp
  obtain ⟨n, hn, rfl⟩ := List.mem_map.1 hp
  exact getValue_scored hv hf hn

/-- with the twenty look-ups rewritten and the scope fixed, model and specification are the same arithmetic
    expression up to `pyMin`, `roundUp1`, `r` and the association of the temporal product -/
theorem scores_eq_of_getValue (c : V3.Ctx) (a : Str → Str) (minor : Nat)
    (hs : c.scope = a c!"S") (hsc : a c!"S" = c!"C" ∨ a c!"S" = c!"U")
    (hms : c.modScope = Spec.V3.eff a c!"MS" c!"S")
    (hmsc : Spec.V3.eff a c!"MS" c!"S" = c!"C" ∨ Spec.V3.eff a c!"MS" c!"S" = c!"U")
    (hg : ∀ p ∈ specWeights a, V3.getValue c p.1 = some p.2) :
    V3.baseScore c = some (Spec.V3.baseScore a) ∧
    (∀ b, V3.temporalScore c b = some (Spec.V3.roundup (b * Spec.V3.temporalFactor a))) ∧
    V3.environmentalScore c minor = some (Spec.V3.environmentalScore minor a) := by
  simp only [specWeights, scored, List.map_cons, List.map_nil, List.forall_mem_cons, List.not_mem_nil,
    false_imp_iff, implies_true, and_true, specW, List.head?_cons, Option.some.injEq, List.drop_succ_cons,
    List.drop_zero, List.cons.injEq, Char.reduceEq, reduceCtorEq, and_false,
    if_true, if_false] at hg
  have hCU : ¬ (c!"C" = c!"U") := by decide
  have hUC : ¬ (c!"U" = c!"C") := by decide
  refine ⟨?_, fun b => ?_, ?_⟩
  · unfold V3.baseScore V3.iscBase V3.esc V3.isc Spec.V3.baseScore Spec.V3.impact
    simp only [hg, hs, Option.bind_eq_bind, Option.bind_some, Option.pure_def]
    rcases hsc with h | h
    · simp only [h, hCU, if_true, if_false, decide_true, Option.bind_some, V3.r, Spec.V3.r,
        pyMin_eq_min, roundUp1_eq_roundup, ← apply_ite some]
    · simp only [h, hUC, if_true, if_false, decide_false, Bool.false_eq_true, Option.bind_some,
        V3.r, Spec.V3.r, pyMin_eq_min, roundUp1_eq_roundup, ← apply_ite some]
  · unfold V3.temporalScore Spec.V3.temporalFactor
    simp only [hg, Option.bind_eq_bind, Option.bind_some, Option.pure_def, roundUp1_eq_roundup,
      mul_assoc]
  · unfold V3.environmentalScore V3.modifiedIscBase V3.modifiedEsc V3.modifiedIsc
      Spec.V3.environmentalScore Spec.V3.modifiedImpact Spec.V3.temporalFactor
    simp only [hg, hms, Option.bind_eq_bind, Option.bind_some, Option.pure_def]
    rcases hmsc with h | h
    · simp only [h, hCU, if_true, if_false, decide_true, Bool.not_true, Bool.false_eq_true,
        V3.r, Spec.V3.r, pyMin_eq_min, roundUp1_eq_roundup, ← apply_ite some, mul_assoc]
    · simp only [h, hUC, if_true, if_false, decide_false, Bool.not_false, V3.r, Spec.V3.r,
        pyMin_eq_min, roundUp1_eq_roundup, ← apply_ite some, mul_assoc]

/-- for every valid metric map and minor version, construction succeeds (no exception outside the
    hierarchy) and the three scores are the specification's equations applied to the assignment read
    off the ORIGINAL map, with the modified-impact formula of that minor version; the object records
    the input, and its filled-in metric dict is as `addMissingOptional_lookup` says -/
theorem v3_build_eq_spec (s : Str) (minor : Nat) (m : MMap) (hv : ValidMap m) :
    ∃ o, V3.build s minor m = some o ∧ o.vector = s ∧ o.minor = minor ∧ o.orig = m ∧
      o.base = Spec.V3.baseScore (assignment V3.X m) ∧
      o.temporal = Spec.V3.temporalScore (assignment V3.X m) ∧
      o.env = Spec.V3.environmentalScore minor (assignment V3.X m) ∧
      ∀ k, lookup k o.metrics =
        if k ∈ V3.modifiedMetrics ∧ assignment V3.X m k = V3.X then lookup (k.drop 1) m else lookup k m := by
  obtain ⟨full, hfull, hf⟩ := addMissingOptional_lookup m hv
  have hf' : Filled m full := hf
  obtain ⟨sc, hsc⟩ := Option.isSome_iff_exists.mp (hv.2 c!"S" (by decide))
  have haS : assignment V3.X m c!"S" = sc := by simp [assignment, hsc]
  obtain ⟨hb, ht, he⟩ := scores_eq_of_getValue (ctxOf m full) (assignment V3.X m) minor rfl (scope_cases hv)
    rfl (modScope_cases hv) (getValue_eq_spec hv hf')
  have hctx : ∀ ms, ms = Spec.V3.eff (assignment V3.X m) c!"MS" c!"S" →
      ({ metrics := full, scope := sc, modScope := ms } : V3.Ctx) = ctxOf m full := by
    intro ms hms
    rw [hms, ← haS]; rfl
  unfold V3.build
  -- `handle_scope`: the Modified Scope used is the effective one
  cases hm : lookup c!"MS" m with
  | none =>
    have hX : assignment V3.X m c!"MS" = Spec.V3.X := by
      simp only [assignment, hm, Option.getD_none]; rfl
    have e := hctx sc (by unfold Spec.V3.eff; rw [if_pos hX, haS])
    simp only [hsc, hfull, e, hb, ht, he, Option.bind_eq_bind, Option.bind_some, Option.pure_def]
    exact ⟨_, rfl, rfl, rfl, rfl, rfl, rfl, rfl, hf⟩
  | some v =>
    have hv' : assignment V3.X m c!"MS" = v := by
      simp only [assignment, hm, Option.getD_some]
    have e := hctx (if v = V3.X then sc else v) (by
      unfold Spec.V3.eff; rw [hv', haS, X_eq])
    simp only [hsc, hfull, e, hb, ht, he, Option.bind_eq_bind, Option.bind_some, Option.pure_def]
    exact ⟨_, rfl, rfl, rfl, rfl, rfl, rfl, rfl, hf⟩

def IsScore (x : Rat) : Prop := ∃ k : Nat, k ≤ 100 ∧ x = (k : Rat) / 10

open Lemmas.Spec3 in
theorem base_isScore (a : Str → Str) : IsScore (Spec.V3.baseScore a) := by
  rw [baseScore_eq_shape]
  exact shape_isScore (kS_nonneg _)
    (explOf_nonneg (w_nonneg _ _) (w_nonneg _ _) (prWeight_nonneg _ _) (w_nonneg _ _))

open Lemmas.Spec3 in
theorem temporal_isScore (a : Str → Str) : IsScore (Spec.V3.temporalScore a) :=
  roundup_mul_tenths (base_isScore a) (temporalFactor_range a).1 (temporalFactor_range a).2

open Lemmas.Spec3 in
theorem env_isScore (minor : Nat) (a : Str → Str) :
    IsScore (Spec.V3.environmentalScore minor a) := by
  rw [env_eq_shape]
  exact roundup_mul_tenths (shape_isScore (kS_nonneg _)
    (explOf_nonneg (w_nonneg _ _) (w_nonneg _ _) (prWeight_nonneg _ _) (w_nonneg _ _)))
    (temporalFactor_range a).1 (temporalFactor_range a).2

/-- C09 (v3 part): for EVERY assignment the specification's three scores are integer tenths in [0.0, 10.0]
    (unknown tokens weigh 0 in `Spec.V3.w`, so no validity hypothesis is needed) -/
theorem v3_spec_range (minor : Nat) (a : Str → Str) :
    IsScore (Spec.V3.baseScore a) ∧ IsScore (Spec.V3.temporalScore a) ∧
      IsScore (Spec.V3.environmentalScore minor a) :=
  ⟨base_isScore a, temporal_isScore a, env_isScore minor a⟩

/-- the specification's equations on the README example
    CVSS:3.0/S:C/C:H/I:H/A:N/AV:P/AC:H/PR:H/UI:R/E:H/RL:O/RC:R/CR:H/IR:X/AR:X/MAC:H/MPR:X/MUI:X/MC:L/MA:X → 6.5, 6.0, 5.3 -/
example :
    Spec.V3.scores 0 (assignment V3.X [(c!"S", c!"C"), (c!"C", c!"H"), (c!"I", c!"H"), (c!"A", c!"N"), (c!"AV", c!"P"),
      (c!"AC", c!"H"), (c!"PR", c!"H"), (c!"UI", c!"R"), (c!"E", c!"H"), (c!"RL", c!"O"), (c!"RC", c!"R"), (c!"CR", c!"H"),
      (c!"IR", c!"X"), (c!"AR", c!"X"), (c!"MAC", c!"H"), (c!"MPR", c!"X"), (c!"MUI", c!"X"), (c!"MC", c!"L"), (c!"MA", c!"X")]) =
      [some (mkRat 65 10), some 6, some (mkRat 53 10)] := by decide +kernel

end Cvss.Props.C01
