/-
  Source tie, CVSS4: the model `Cvss.Model.V4` equals the translation of cvss/cvss4.py (`Cvss.Gen.Code4`); obligations
  and `Aux` as in `CodeTie2.lean` (`CodeTie4Ctor.lean` adds `Aux2` and one lemma of `Aux`).  `compute_base_score` is
  tied as a whole, in one walk along its text (legend where its restated pieces start).
-/
import Mathlib.Tactic.Ring
import Cvss.Lemmas.PyM
import Cvss.Lemmas.V3
import Cvss.Gen.Code4
import Cvss.Model.V4

namespace Cvss.Props.CodeTie4
open Cvss Cvss.Gen

namespace Aux

theorem error_bind {ε α β : Type} (e : ε) (f : α → Except ε β) :
    ((Except.error e : Except ε α) >>= f) = .error e := rfl
theorem pure_ok {ε α : Type} (a : α) : (pure a : Except ε α) = .ok a := rfl

theorem levels_tables_eq : Code4.levels = Model.V4.levels := by
  decide +kernel

theorem getitem_some {β : Type} {k : Str} {d : List (Str × β)} {v : β} (h : lookup k d = some v) :
    Py.getitem k d = .ok v := by
  simp [Py.getitem, h]

theorem append6_eq_mvKey {a1 a2 a3 a4 a5 a6 : Str} {n1 n2 n3 n4 n5 n6 : Nat}
    (h1 : a1 = natToStr n1) (h2 : a2 = natToStr n2) (h3 : a3 = natToStr n3)
    (h4 : a4 = natToStr n4) (h5 : a5 = natToStr n5) (h6 : a6 = natToStr n6) :
    (((((a1 ++ a2) ++ a3) ++ a4) ++ a5) ++ a6) = Model.V4.mvKey [n1, n2, n3, n4, n5, n6] := by
  subst h1 h2 h3 h4 h5 h6
  simp [Model.V4.mvKey, List.flatMap_cons, List.append_assoc]

theorem n0 : natToStr 0 = ['0'] := by decide
theorem n1 : natToStr 1 = ['1'] := by decide
theorem n2 : natToStr 2 = ['2'] := by decide

end Aux

theorem m_eq (self : Code4.Self) (k : Str) :
    Code4.m self k = .ok (Model.V4.mEff self.metrics k) := by
  unfold Code4.m Model.V4.mEff
  -- the innermost branch first (is there a Modified entry?), then the tests lift through `.ok`
  cases hM : lookup ('M' :: k) self.metrics with
  | none =>
    simp only [Py.get?, Py.contains, hasKey, List.cons_append, List.nil_append, hM, Option.isSome_none,
      Bool.false_eq_true, if_false, Aux.pure_ok, ← apply_ite Except.ok]
    rfl
  | some ms =>
    simp only [Py.get?, Py.contains, hasKey, List.cons_append, List.nil_append, hM, Option.isSome_some, if_true,
      Py.getitem, Py.ok_bind, Aux.pure_ok, ← apply_ite Except.ok]
    rfl

namespace Aux

/-- the `'N'` is that of `"None"`, which a digit the code does not set keeps from its initialisation -/
theorem macroVector_spec (self : Code4.Self) :
    ∃ s, Code4.macroVector self = .ok s ∧
      (∀ d, Model.V4.macroVector self.metrics = some d → s = Model.V4.mvKey d) ∧
      (Model.V4.macroVector self.metrics = none → 'N' ∈ s) := by
  -- the code's short-circuit tests become Boolean expressions over the same yes/no facts as the model's
  unfold Code4.macroVector
  simp only [m_eq, Py.ok_bind, pure_ok, ← apply_ite Except.ok, Bool.if_false_right, Bool.if_true_left, decide_not,
    Bool.decide_eq_true, ite_not]
  refine ⟨_, rfl, fun d h => ?_, fun h => ?_⟩
  · unfold Model.V4.macroVector at h
    simp only [] at h  -- (zeta: the model's `let`s)
    split at h
    · exact absurd h (by simp)
    · rename_i e5 heq
      injection h with h
      subst h
      beta_reduce
      -- digit by digit: a finite table over the few yes/no facts the digit depends on
      apply append6_eq_mvKey
      · generalize decide (Model.V4.mEff self.metrics ['A', 'V'] = some ['N']) = avN,
          decide (Model.V4.mEff self.metrics ['P', 'R'] = some ['N']) = prN,
          decide (Model.V4.mEff self.metrics ['U', 'I'] = some ['N']) = uiN,
          decide (Model.V4.mEff self.metrics ['A', 'V'] = some ['P']) = avP
        decide +revert
      · generalize decide (Model.V4.mEff self.metrics ['A', 'C'] = some ['L']) = acL,
          decide (Model.V4.mEff self.metrics ['A', 'T'] = some ['N']) = atN
        decide +revert
      · generalize decide (Model.V4.mEff self.metrics ['V', 'C'] = some ['H']) = vcH,
          decide (Model.V4.mEff self.metrics ['V', 'I'] = some ['H']) = viH,
          decide (Model.V4.mEff self.metrics ['V', 'A'] = some ['H']) = vaH
        decide +revert
      · generalize decide (Model.V4.mEff self.metrics ['M', 'S', 'I'] = some ['S']) = msiS,
          decide (Model.V4.mEff self.metrics ['M', 'S', 'A'] = some ['S']) = msaS,
          decide (Model.V4.mEff self.metrics ['S', 'C'] = some ['H']) = scH,
          decide (Model.V4.mEff self.metrics ['S', 'I'] = some ['H']) = siH,
          decide (Model.V4.mEff self.metrics ['S', 'A'] = some ['H']) = saH
        decide +revert
      · by_cases a : Model.V4.mEff self.metrics ['E'] = some ['A'] <;>
        by_cases b : Model.V4.mEff self.metrics ['E'] = some ['P'] <;>
        by_cases c : Model.V4.mEff self.metrics ['E'] = some ['U'] <;>
        simp [a, b, c] at heq <;> subst heq <;> simp [a, b, c, Aux.n0, Aux.n1, Aux.n2]
      · generalize decide (Model.V4.mEff self.metrics ['C', 'R'] = some ['H']) = crH,
          decide (Model.V4.mEff self.metrics ['I', 'R'] = some ['H']) = irH,
          decide (Model.V4.mEff self.metrics ['A', 'R'] = some ['H']) = arH,
          decide (Model.V4.mEff self.metrics ['V', 'C'] = some ['H']) = vcH,
          decide (Model.V4.mEff self.metrics ['V', 'I'] = some ['H']) = viH,
          decide (Model.V4.mEff self.metrics ['V', 'A'] = some ['H']) = vaH
        decide +revert
  · unfold Model.V4.macroVector at h
    simp only [] at h
    split at h
    · rename_i heq
      apply List.mem_append_left
      apply List.mem_append_right
      by_cases a : Model.V4.mEff self.metrics ['E'] = some ['A'] <;>
        by_cases b : Model.V4.mEff self.metrics ['E'] = some ['P'] <;>
        by_cases c : Model.V4.mEff self.metrics ['E'] = some ['U'] <;>
        simp [a, b, c] at heq ⊢
    · exact absurd h (by simp)

end Aux

theorem macroVector_eq (self : Code4.Self) (d : List Nat)
    (h : Model.V4.macroVector self.metrics = some d) :
    Code4.macroVector self = .ok (Model.V4.mvKey d) := by
  obtain ⟨s, hs, heq, -⟩ := Aux.macroVector_spec self
  rw [hs, heq d h]

theorem macroVector_none (self : Code4.Self)
    (h : Model.V4.macroVector self.metrics = none) :
    ∃ s, Code4.macroVector self = .ok s ∧ 'N' ∈ s := by
  obtain ⟨s, hs, -, hN⟩ := Aux.macroVector_spec self
  exact ⟨s, hs, hN h⟩

theorem get_value_description_eq (self : Code4.Self) (a : Str) :
    (Code4.get_value_description self a).toOption = Model.V4.getDescription self.metrics a := by
  unfold Code4.get_value_description Model.V4.getDescription
  simp only [Py.getD, Py.getitem, Model.V4.X, Aux.pure_ok]
  cases lookup a Gen.V4.valueNames with
  | none => rfl
  | some row =>
    simp only [Py.ok_bind]
    cases lookup ((lookup a self.metrics).getD ['X']) row <;> rfl

namespace Aux
open Cvss.Py (ok_bind)

def defBody : Code4.Self → Str → Py.M Code4.Self :=
  fun (st : Code4.Self) (abbreviation : Str) => (do
    let self := st
    let self ← (if (¬ (Py.contains abbreviation self.metrics = true)) then (do
        let self : Code4.Self := { self with metrics := Py.setitem abbreviation c!"X" self.metrics }
        pure self) else (do
        pure self))
    pure self)

theorem def_step (st : Code4.Self) (a : Str) :
    defBody st a = .ok (if hasKey a st.metrics then st else
      { st with metrics := insert a Model.V4.X st.metrics }) := by
  unfold defBody
  by_cases hk : hasKey a st.metrics = true <;> simp [hk, pure_ok, Model.V4.X]

theorem def_fold (l : List Str) (st : Code4.Self) :
    List.foldlM defBody st l = .ok { st with metrics := Model.V4.fillDefaults st.metrics l } := by
  induction l generalizing st with
  | nil => simp [List.foldlM, pure_ok, Model.V4.fillDefaults]
  | cons a l ih =>
    rw [List.foldlM_cons, def_step, ok_bind, ih]
    simp only [Model.V4.fillDefaults]
    by_cases hk : hasKey a st.metrics = true <;> simp [hk]

def parseVectorBody : Code4.Self → Str → Py.M Code4.Self :=
  fun (st : Code4.Self) (field : Str) => (do
    let self := st
    let () ← (if (field = c!"") then (do
        Py.raise .malformed) else (do
        pure ()))
    let (metric, value_) ← Py.tryExcept (do
        let (metric, value_) ← Py.unpack2 (splitOn ':' field)
        pure (metric, value_)) .valueError (do
        Py.raise .malformed)
    let () ← (if (Py.contains metric self.metrics = true) then (do
        Py.raise .malformed) else (do
        pure ()))
    let () ← (if (¬ (Py.contains metric Gen.V4.valueNames = true)) then (do
        Py.raise .malformed) else (do
        pure ()))
    let t1 ← Py.getitem metric Gen.V4.valueNames
    let () ← (if (¬ (Py.contains value_ t1 = true)) then (do
        Py.raise .malformed) else (do
        pure ()))
    let self : Code4.Self := { self with metrics := Py.setitem metric value_ self.metrics }
    pure self)

theorem parseVectorBody_view (st : Code4.Self) (f : Str) :
    (parseVectorBody st f).mapError Py.Exc.toErr =
      (Model.parseField Model.V4.tables st.metrics f).map (fun m => { st with metrics := m }) := by
  unfold parseVectorBody Model.parseField
  by_cases hf : f = []
  · rw [if_pos hf, if_pos hf]
    rfl
  · rw [if_neg hf, if_neg hf]
    rcases splitOn ':' f with _ | ⟨m, _ | ⟨v, _ | ⟨w, r⟩⟩⟩
    · rfl
    · rfl
    · simp only [pure_ok, ok_bind, Py.unpack2, Py.tryExcept, Model.V4.tables, Py.contains, if_true, lookup_map_keys,
        ← hasKey_iff_mem_keys]
      by_cases hd : hasKey m st.metrics = true
      · simp only [hd, if_true]
        rfl
      · have hd' : hasKey m st.metrics = false := by simpa using hd
        simp only [hd', Bool.false_eq_true, if_false, ok_bind]
        cases hl : lookup m Gen.V4.valueNames with
        | none =>
          simp only [hasKey, hl]
          rfl
        | some row =>
          have hk : hasKey m Gen.V4.valueNames = true := by
            rw [hasKey, hl]
            rfl
          simp only [hk, getitem_some hl, not_true_eq_false, if_false, ok_bind, Option.map_some,
            ← hasKey_iff_mem_keys]
          by_cases hv : hasKey v row = true
          · simp only [hv, not_true_eq_false, if_false, if_true, ok_bind, Py.setitem,
              insert_of_hasKey_false m v st.metrics hd']
            rfl
          · simp only [hv, not_false_eq_true, if_true, if_false, Bool.false_eq_true]
            rfl
    · rfl

theorem parse_fold (l : List Str) (st : Code4.Self) :
    (List.foldlM parseVectorBody st l).mapError Py.Exc.toErr =
      (Model.parseFields Model.V4.tables st.metrics l).map (fun m => { st with metrics := m }) :=
  Py.parseFields_view Code4.Self.metrics (fun st m => { st with metrics := m }) Model.V4.tables _
    (fun _ _ => rfl) (fun _ _ => rfl) (fun _ => rfl) parseVectorBody_view l st

end Aux

theorem parse_vector_eq (self : Code4.Self) (h : self.metrics = []) :
    ((Code4.parse_vector self).mapError Py.Exc.toErr).map (fun x => (x.vector, x.metrics)) =
      (Model.parseWithPrefix Model.V4.tables [Model.V4.pfx] self.vector).map (fun r => (self.vector, r.2)) := by
  unfold Code4.parse_vector
  unfold Model.parseWithPrefix Model.V4.pfx
  by_cases h1 : self.vector = []
  · rw [if_pos h1, if_pos h1]
    rfl
  rw [if_neg h1, if_neg h1]
  by_cases h2 : endsWithChar '/' self.vector = true
  · rw [if_pos h2, if_pos h2]
    rfl
  rw [if_neg h2, if_neg h2, List.findIdx?_cons]
  by_cases h3 : startsWith c!"CVSS:4.0/" self.vector = true
  · rw [if_neg (not_not_intro h3), if_pos h3]
    show ((List.foldlM Aux.parseVectorBody self _).mapError Py.Exc.toErr).map _ = _
    rw [Aux.parse_fold, h]
    cases Model.parseFields Model.V4.tables [] (List.drop 1 (splitOn '/' self.vector)) <;> rfl
  · rw [if_pos h3, if_neg h3]
    rfl

theorem check_mandatory_eq (self : Code4.Self) :
    (Code4.check_mandatory self).mapError Py.Exc.toErr = Model.checkMandatory Model.V4.tables self.metrics :=
  Py.check_mandatory_view Model.V4.tables self.metrics

namespace Aux

theorem add_missing_optional_state (self : Code4.Self) :
    (Code4.add_missing_optional self).toOption =
      (Model.V4.fillModified self.metrics Model.V4.modifiedMetrics).map fun m1 =>
        { self with original_metrics := self.metrics,
                    metrics := Model.V4.fillDefaults m1 Model.V4.defaultedMetrics } := by
  -- the `show` checks the two literal name lists of the method's loops against the model's
  show (List.foldlM (Py.amoBody Code4.Self.metrics fun s m => { s with metrics := m })
      { self with original_metrics := self.metrics } Model.V4.modifiedMetrics >>= fun s1 =>
    List.foldlM defBody s1 Model.V4.defaultedMetrics).toOption = _
  rw [Py.toOption_bind, Py.amo_fold Code4.Self.metrics (fun s m => { s with metrics := m }) (fun _ _ => rfl)
    (fun _ _ => rfl) (fun _ => rfl), Lemmas.V4.fillModified_eq]
  simp only [def_fold, Except.toOption]
  cases Model.V3.addMissingOptional self.metrics Model.V4.modifiedMetrics <;> rfl

theorem compute_severity_state (self : Code4.Self) (b : Rat) (h : self.base_score = some b) :
    Code4.compute_severity self = .ok { self with severity := some (Model.V4.sevOf b) } := by
  unfold Code4.compute_severity Model.V4.sevOf
  simp only [h, Py.req, Py.ok_bind, pure_ok, Model.V4.r]
  by_cases h0 : b = 0
  · subst h0
    simp
  simp only [Py.q0, Option.some.injEq, if_neg h0]
  by_cases h1 : b ≤ mkRat 39 10
  · simp [h1]
  by_cases h2 : b ≤ mkRat 69 10
  · simp [h1, h2]
  by_cases h3 : b ≤ mkRat 89 10
  · simp [h1, h2, h3]
  · simp [h1, h2, h3]

end Aux

theorem add_missing_optional_eq (self : Code4.Self) :
    (Code4.add_missing_optional self).toOption.map (fun s => (s.original_metrics, s.metrics)) =
      (Model.V4.fillModified self.metrics Model.V4.modifiedMetrics).map
        (fun m1 => (self.metrics, Model.V4.fillDefaults m1 Model.V4.defaultedMetrics)) := by
  rw [Aux.add_missing_optional_state]
  cases Model.V4.fillModified self.metrics Model.V4.modifiedMetrics <;> rfl

theorem compute_severity_eq (self : Code4.Self) (b : Rat) (h : self.base_score = some b) :
    (Code4.compute_severity self).map (fun s => s.severity) = .ok (some (Model.V4.sevOf b)) := by
  rw [Aux.compute_severity_state self b h]
  rfl

theorem clean_vector_eq (self : Code4.Self) (p : Bool) :
    Code4.clean_vector self p = .ok (Model.V4.cleanOf self.original_metrics p) := by
  show (List.foldlM (Py.cleanBody self.original_metrics c!"X") [] (keys Gen.V4.abbrs) >>= fun v => _) = _
  rw [Py.clean_loop]
  cases p <;> rfl

theorem levels_eq (k v : Str) :
    (lookup k Code4.levels).bind (lookup v) = (lookup k Model.V4.levels).bind (lookup v) := by
  rw [Aux.levels_tables_eq]

-- (`Perm` is all that is claimed; the tables are in fact equal: `Aux.levels_tables_eq`)
theorem levels_keys_perm : (keys Code4.levels).Perm (keys Model.V4.levels) := by
  rw [Aux.levels_tables_eq]

theorem step_eq : Code4.step = Model.V4.r 1 10 := rfl

/-- the translator's list of the metrics whose `severity_distance_*` has the shape
    `X_levels[m(X)] - X_levels[max vector's X]`, in source order, is the model's (that the distances are computed
    so, each with the metric's own table, is `Aux.distK_toOption` / `Aux.body_run`) -/
theorem distMetrics_eq : Code4.distMetrics = Model.V4.distMetrics := rfl

def jOf : Model.JVal → Py.J
  | .str s => .str s
  | .num x => .num x

namespace Aux

abbrev asJsonBody (self : Code4.Self) : List (Str × Py.J) → Str → Py.M (List (Str × Py.J)) :=
  Py.jsonBody Gen.V4.jsonKeys (Code4.get_value_description self) Py.usM

theorem asJsonBody_fold (self : Code4.Self) (l : List Str) (d : Model.JObj) :
    (List.foldlM (asJsonBody self) (Py.jmap jOf d) l).toOption =
      (Model.addMetrics Gen.V4.jsonKeys (Model.V4.getDescription self.metrics) Model.us3 d l).map
        (Py.jmap jOf) :=
  Py.jsonBody_fold jOf (fun _ => rfl) (get_value_description_eq self) Py.usM_eq l d

theorem as_json_unfold (self : Code4.Self) (sort minimal : Bool) :
    Code4.as_json self sort minimal = (do
      let data ← List.foldlM (asJsonBody self)
        ([(c!"version", (Py.J.str c!"4")), (c!"vectorString", (Py.J.str self.vector))] : List (Str × Py.J))
        Gen.V4.metricsOrder
      let v4 ← Py.req self.base_score
      let data : List (Str × Py.J) := Py.setitem c!"baseScore" (Py.J.num v4) data
      let data : List (Str × Py.J) := Py.setitem c!"baseSeverity" (match self.severity with | some x => Py.J.str x | none => Py.J.null) data
      let data ← (if (sort = true) then (do
          let data : List (Str × Py.J) := (Py.sortedItems data)
          pure data) else (do
          pure data))
      pure data) := rfl

end Aux

theorem as_json_eq (self : Code4.Self) (o : Model.V4.Obj) (sort minimal : Bool)
    (hv : o.vector = self.vector) (hm : o.metrics = self.metrics) (hb : self.base_score = some o.base)
    (hs : self.severity = some o.severity) :
    (Code4.as_json self sort minimal).toOption =
      (Model.asJson4 o sort minimal).map (List.map (fun kv => (kv.1, jOf kv.2))) := by
  rw [Aux.as_json_unfold]
  unfold Model.asJson4
  rw [hv, hm]
  refine Py.toOption_bind_map (Aux.asJsonBody_fold self _ [(c!"version", .str c!"4"), (c!"vectorString", .str self.vector)])
    fun d1 => ?_
  have e1 : insert c!"baseScore" (Py.J.num o.base) (Py.jmap jOf d1) = _ := Py.insert_jmap jOf _ (.num o.base) d1
  have e2 (d : Model.JObj) : insert c!"baseSeverity" (Py.J.str o.severity) (Py.jmap jOf d) = _ :=
    Py.insert_jmap jOf _ (.str o.severity) d
  simp only [hb, hs, Py.req, Py.ok_bind, Aux.pure_ok, Py.setitem, e1, e2]
  cases sort
  · rfl
  · simp only [if_true, Py.sortedItems_jmap]
    rfl

theorem final_rounding_eq (x : Rat) : Code4.final_rounding (some x) = .ok (Model.V4.finalRounding x) := by
  rfl

/-! `compute_base_score` (`cbs`): `Aux.compute_base_score_view` is one walk along the generated text (`Lemmas/PyM`).  A
  stretch of text that a lemma is stated about is first restated over its free variables (only the walk's unification
  ties it, and `Code4.levels` through `lvl`, to the text):
  * `macroStr`: `"".join(str(v) for v in …)`; `cbsStr36`, `cbsScore36`: the cascade on `eq3_val`, `eq6_val` that sets
    `eq3eq6_next_lower_macro` (`_left`, `_right`) and the look-up of its score - `mScore36`, the model's `let s36`;
  * `cbsProduct`: the five nested loops filling `max_vectors`;
  * `cbsSearchBody`, `distK`, `lvl`: one iteration of `for max_vector in max_vectors`, one `severity_distance_X` in
    front of the rest `K` of the body, the local dict `X_levels`; the loop's state `SState` (from `initState`): the 14
    distance variables, unbound at first, and the flag of the `break` - `rvS` (`readVars`) reads them as the model's
    distance list, `stoppedS` the flag, `stateOf d` is the state after an iteration that computed `d`;
  * `cbsBlk`, `cbsBlk5`: one `if type(x) in (float, int) and x >= 0:` block - the model's `contribution`, `let k5`
    (`mBlk5`);
  * `cbsFinal`: mean, clamp, `final_rounding`, assignment to `self.base_score` (`withBase`). -/

namespace Aux
open Cvss.Py (ok_bind toOption_bind toOption_ok)

abbrev withBase (self : Code4.Self) (b : Rat) : Code4.Self := { self with base_score := some b }

def macroStr (l : List Int) : Str := (List.flatten (List.map (fun val => (Py.strOInt (some val))) l))

def cbsStr36 (eq1_val eq2_val eq3_val eq4_val eq5_val eq6_val : Int) : Py.M (Option Str × Option Str × Option Str) :=
  (if ((eq3_val = (1 : Int)) ∧ (eq6_val = (1 : Int))) then (do
      let eq3eq6_next_lower_macro : Str := (macroStr [eq1_val, eq2_val, (eq3_val + (1 : Int)), eq4_val, eq5_val, eq6_val])
      pure ((some eq3eq6_next_lower_macro), (none : Option Str), (none : Option Str))) else (do
      let (eq3eq6_next_lower_macro, eq3eq6_next_lower_macro_left, eq3eq6_next_lower_macro_right) ← (if ((eq3_val = (0 : Int)) ∧ (eq6_val = (1 : Int))) then (do
          let eq3eq6_next_lower_macro : Str := (macroStr [eq1_val, eq2_val, (eq3_val + (1 : Int)), eq4_val, eq5_val, eq6_val])
          pure ((some eq3eq6_next_lower_macro), (none : Option Str), (none : Option Str))) else (do
          let (eq3eq6_next_lower_macro, eq3eq6_next_lower_macro_left, eq3eq6_next_lower_macro_right) ← (if ((eq3_val = (1 : Int)) ∧ (eq6_val = (0 : Int))) then (do
              let eq3eq6_next_lower_macro : Str := (macroStr [eq1_val, eq2_val, eq3_val, eq4_val, eq5_val, (eq6_val + (1 : Int))])
              pure ((some eq3eq6_next_lower_macro), (none : Option Str), (none : Option Str))) else (do
              let (eq3eq6_next_lower_macro_left, eq3eq6_next_lower_macro_right, eq3eq6_next_lower_macro) ← (if ((eq3_val = (0 : Int)) ∧ (eq6_val = (0 : Int))) then (do
                  let eq3eq6_next_lower_macro_left : Str := (macroStr [eq1_val, eq2_val, eq3_val, eq4_val, eq5_val, (eq6_val + (1 : Int))])
                  let eq3eq6_next_lower_macro_right : Str := (macroStr [eq1_val, eq2_val, (eq3_val + (1 : Int)), eq4_val, eq5_val, eq6_val])
                  pure ((some eq3eq6_next_lower_macro_left), (some eq3eq6_next_lower_macro_right), (none : Option Str))) else (do
                  let eq3eq6_next_lower_macro : Str := (macroStr [eq1_val, eq2_val, (eq3_val + (1 : Int)), eq4_val, eq5_val, (eq6_val + (1 : Int))])
                  pure ((none : Option Str), (none : Option Str), (some eq3eq6_next_lower_macro))))
              pure (eq3eq6_next_lower_macro, eq3eq6_next_lower_macro_left, eq3eq6_next_lower_macro_right)))
          pure (eq3eq6_next_lower_macro, eq3eq6_next_lower_macro_left, eq3eq6_next_lower_macro_right)))
      pure (eq3eq6_next_lower_macro, eq3eq6_next_lower_macro_left, eq3eq6_next_lower_macro_right)))

def cbsScore36 (eq3_val eq6_val : Int) (eq3eq6_next_lower_macro eq3eq6_next_lower_macro_left eq3eq6_next_lower_macro_right : Option Str) : Py.M (Option Rat) :=
  (if ((eq3_val = (0 : Int)) ∧ (eq6_val = (0 : Int))) then (do
      let u17 ← Py.bound eq3eq6_next_lower_macro_left
      let score_eq3eq6_next_lower_macro_left : Option Rat := (Py.get? u17 Gen.V4.lookupTable)
      let u18 ← Py.bound eq3eq6_next_lower_macro_right
      let score_eq3eq6_next_lower_macro_right : Option Rat := (Py.get? u18 Gen.V4.lookupTable)
      let score_eq3eq6_next_lower_macro : Option Rat := (Py.fmax score_eq3eq6_next_lower_macro_left score_eq3eq6_next_lower_macro_right)
      pure score_eq3eq6_next_lower_macro) else (do
      let u19 ← Py.bound eq3eq6_next_lower_macro
      let score_eq3eq6_next_lower_macro : Option Rat := (Py.get? u19 Gen.V4.lookupTable)
      pure score_eq3eq6_next_lower_macro))

def cbsProduct (eq1_maxes eq2_maxes eq3_eq6_maxes eq4_maxes eq5_maxes : List (List (Str × Str))) : Py.M (List (List (Str × Str))) :=
  List.foldlM (fun (st : (List (List (Str × Str)))) (eq1_max : List (Str × Str)) => (do
    let max_vectors := st
    let max_vectors ← List.foldlM (fun (st : (List (List (Str × Str)))) (eq2_max : List (Str × Str)) => (do
      let max_vectors := st
      let max_vectors ← List.foldlM (fun (st : (List (List (Str × Str)))) (eq3_eq6_max : List (Str × Str)) => (do
        let max_vectors := st
        let max_vectors ← List.foldlM (fun (st : (List (List (Str × Str)))) (eq4_max : List (Str × Str)) => (do
          let max_vectors := st
          let max_vectors ← List.foldlM (fun (st : (List (List (Str × Str)))) (eq5max : List (Str × Str)) => (do
            let max_vectors := st
            let max_vectors : List (List (Str × Str)) := max_vectors ++ [((((eq1_max ++ eq2_max) ++ eq3_eq6_max) ++ eq4_max) ++ eq5max)]
            pure max_vectors)) max_vectors eq5_maxes
          pure max_vectors)) max_vectors eq4_maxes
        pure max_vectors)) max_vectors eq3_eq6_maxes
      pure max_vectors)) max_vectors eq2_maxes
    pure max_vectors)) ([] : List (List (Str × Str))) eq1_maxes

abbrev SState := (Option Rat) × (Option Rat) × (Option Rat) × (Option Rat) × (Option Rat) × (Option Rat) × (Option Rat) × (Option Rat) × (Option Rat) × (Option Rat) × (Option Rat) × (Option Rat) × (Option Rat) × (Option Rat) × Bool

def lvl (k : Str) : List (Str × Rat) := (lookup k Code4.levels).getD []

def distK {β : Type} (self : Code4.Self) (k : Str) (mv : List (Str × Str)) (K : Rat → Py.M β) : Py.M β := do
  let tbl := lvl k
  let t31 ← Code4.m self k
  let t32 ← Py.getitemO t31 tbl
  let t33 ← Py.getitem k mv
  let t34 ← Py.getitem t33 tbl
  K (t32 - t34)

-- (the tuple pattern keeps the 14 variable names of the generated text, though only the flag is read)
set_option linter.unusedVariables false in
def cbsSearchBody (self : Code4.Self) : SState → List (Str × Str) → Py.M SState :=
  fun (st : SState) (max_vector : List (Str × Str)) => (do
    let (severity_distance_AV, severity_distance_PR, severity_distance_UI, severity_distance_AC, severity_distance_AT, severity_distance_VC, severity_distance_VI, severity_distance_VA, severity_distance_SC, severity_distance_SI, severity_distance_SA, severity_distance_CR, severity_distance_IR, severity_distance_AR, stopped87) := st
    if stopped87 = true then pure st else
      distK self c!"AV" max_vector fun dAV =>
      distK self c!"PR" max_vector fun dPR =>
      distK self c!"UI" max_vector fun dUI =>
      distK self c!"AC" max_vector fun dAC =>
      distK self c!"AT" max_vector fun dAT =>
      distK self c!"VC" max_vector fun dVC =>
      distK self c!"VI" max_vector fun dVI =>
      distK self c!"VA" max_vector fun dVA =>
      distK self c!"SC" max_vector fun dSC =>
      distK self c!"SI" max_vector fun dSI =>
      distK self c!"SA" max_vector fun dSA =>
      distK self c!"CR" max_vector fun dCR =>
      distK self c!"IR" max_vector fun dIR =>
      distK self c!"AR" max_vector fun dAR =>
        pure (some dAV, some dPR, some dUI, some dAC, some dAT, some dVC, some dVI, some dVA, some dSC, some dSI, some dSA, some dCR, some dIR, some dAR,
          (decide (¬ ((List.any ([dAV, dPR, dUI, dAC, dAT, dVC, dVI, dVA, dSC, dSI, dSA, dCR, dIR, dAR] : List Rat) (fun met => decide (met < (((0 : Int) : Int) : Rat)))) = true)))))

def cbsBlk (n : Int) (avail : Option Rat) (cur ms : Rat) : Py.M (Int × Rat × Option Rat) :=
  (if (True ∧ (Py.fge avail (some (((0 : Int) : Int) : Rat)) = true)) then (do
      let n_existing_lower : Int := (n + (1 : Int))
      let t134 ← Py.div cur ms
      let percent_to_next_eq1_severity : Rat := t134
      let normalized_severity_eq1 : Option Rat := (Py.fmul avail (some percent_to_next_eq1_severity))
      pure (n_existing_lower, percent_to_next_eq1_severity, normalized_severity_eq1)) else (do
      pure (n, (((0 : Int) : Int) : Rat), (some (((0 : Int) : Int) : Rat)))))

def cbsBlk5 (n : Int) (avail : Option Rat) : Py.M (Int × Int × Option Rat) :=
  (if (True ∧ (Py.fge avail (some (((0 : Int) : Int) : Rat)) = true)) then (do
      let n_existing_lower : Int := (n + (1 : Int))
      let percent_to_next_eq5_severity : Int := (0 : Int)
      let normalized_severity_eq5 : Option Rat := (Py.fmul avail (some ((percent_to_next_eq5_severity : Int) : Rat)))
      pure (n_existing_lower, percent_to_next_eq5_severity, normalized_severity_eq5)) else (do
      pure (n, (0 : Int), (some (((0 : Int) : Int) : Rat)))))

def cbsFinal (self : Code4.Self) (value_ : Rat) (n_existing_lower : Int)
    (normalized_severity_eq1 normalized_severity_eq2 normalized_severity_eq3eq6 normalized_severity_eq4
      normalized_severity_eq5 : Option Rat) : Py.M Code4.Self := do
  let t139 ← (if (n_existing_lower = (0 : Int)) then (do
      pure (some (((0 : Int) : Int) : Rat))) else (do
      let t138 ← Py.fdiv (Py.fadd (Py.fadd (Py.fadd (Py.fadd normalized_severity_eq1 normalized_severity_eq2) normalized_severity_eq3eq6) normalized_severity_eq4) normalized_severity_eq5) (some ((n_existing_lower : Int) : Rat))
      pure t138))
  let mean_distance : Option Rat := t139
  let value_ : Option Rat := (Py.fsub (some value_) mean_distance)
  let value_ : Option Rat := (Py.fmax (some (mkRat (0) 1)) value_)
  let value_ : Option Rat := (Py.fmin (some (mkRat (10) 1)) value_)
  let t140 ← Code4.final_rounding value_
  let self : Code4.Self := { self with base_score := (some t140) }
  pure self

theorem fold_flat {α β : Type} (F : List β → α → Py.M (List β)) (h : α → List β)
    (hF : ∀ acc x, F acc x = .ok (acc ++ h x)) (l : List α) (init : List β) :
    List.foldlM F init l = .ok (init ++ l.flatMap h) := by
  induction l generalizing init with
  | nil => simp [List.foldlM, pure_ok]
  | cons a l ih =>
    rw [List.foldlM_cons, hF, ok_bind, ih]
    simp [List.flatMap_cons, List.append_assoc]

theorem cbsProduct_eq (e1 e2 e36 e4 e5 : List (List (Str × Str))) :
    cbsProduct e1 e2 e36 e4 e5 = .ok (Model.V4.product e1 e2 e36 e4 e5) := by
  unfold cbsProduct Model.V4.product
  refine (fold_flat _ (fun a => e2.flatMap fun b => e36.flatMap fun c => e4.flatMap fun d =>
    e5.map fun e => a ++ b ++ c ++ d ++ e) ?_ _ _).trans (by simp)
  intro acc a
  refine (fold_flat _ (fun b => e36.flatMap fun c => e4.flatMap fun d =>
    e5.map fun e => a ++ b ++ c ++ d ++ e) ?_ _ _)
  intro acc b
  refine (fold_flat _ (fun c => e4.flatMap fun d =>
    e5.map fun e => a ++ b ++ c ++ d ++ e) ?_ _ _)
  intro acc c
  refine (fold_flat _ (fun d =>
    e5.map fun e => a ++ b ++ c ++ d ++ e) ?_ _ _)
  intro acc d
  refine (fold_flat _ (fun e => [a ++ b ++ c ++ d ++ e]) ?_ _ _).trans (by rw [← List.map_eq_flatMap])
  intro acc e
  rfl

theorem strOInt_nat (n : Nat) : Py.strOInt (some (n : Int)) = natToStr n := Py.strOInt_nat n

theorem macroStr_map (l : List Nat) : macroStr (l.map (fun (n : Nat) => (n : Int))) = Model.V4.mvKey l := by
  unfold macroStr Model.V4.mvKey
  induction l with
  | nil => rfl
  | cons a l ih =>
    simp only [List.map_cons, List.flatten_cons, List.flatMap_cons, strOInt_nat] at ih ⊢
    rw [ih]

theorem macroStr6 (a b c d e f : Nat) :
    macroStr [(a : Int), (b : Int), (c : Int), (d : Int), (e : Int), (f : Int)] = Model.V4.mvKey [a, b, c, d, e, f] :=
  macroStr_map [a, b, c, d, e, f]

/-- the `let s36` of `Model.V4.baseScore`, verbatim (`mBlk5`: its `let k5`): the walk's `blk_view` steps and closing `rfl` need them
    definitionally equal to those `let`s -/
def mScore36 (e1 e2 e3 e4 e5 e6 : Nat) : Option Rat :=
  if e3 = 1 ∧ e6 = 1 then Model.V4.lookupScore [e1, e2, e3 + 1, e4, e5, e6]
  else if e3 = 0 ∧ e6 = 1 then Model.V4.lookupScore [e1, e2, e3 + 1, e4, e5, e6]
  else if e3 = 1 ∧ e6 = 0 then Model.V4.lookupScore [e1, e2, e3, e4, e5, e6 + 1]
  else if e3 = 0 ∧ e6 = 0 then
    Model.V4.pyMaxNan (Model.V4.lookupScore [e1, e2, e3, e4, e5, e6 + 1]) (Model.V4.lookupScore [e1, e2, e3 + 1, e4, e5, e6])
  else Model.V4.lookupScore [e1, e2, e3 + 1, e4, e5, e6 + 1]

theorem fmax_eq (a b : Option Rat) : Py.fmax a b = Model.V4.pyMaxNan a b := by
  cases a <;> cases b <;> try rfl
  simp only [Py.fmax, Py.fgt, Py.flt, Model.V4.pyMaxNan, gt_iff_lt, decide_eq_true_eq]
  split <;> rfl

theorem s36_eq (e1 e2 e3 e4 e5 e6 : Nat) :
    ∃ a b c, cbsStr36 e1 e2 e3 e4 e5 e6 = .ok (a, b, c) ∧
      cbsScore36 e3 e6 a b c = .ok (mScore36 e1 e2 e3 e4 e5 e6) := by
  have h31 : ((e3 : Int) = 1) ↔ e3 = 1 := by omega
  have h30 : ((e3 : Int) = 0) ↔ e3 = 0 := by omega
  have h61 : ((e6 : Int) = 1) ↔ e6 = 1 := by omega
  have h60 : ((e6 : Int) = 0) ↔ e6 = 0 := by omega
  unfold cbsStr36 cbsScore36 mScore36
  simp only [h31, h30, h61, h60]
  by_cases c1 : e3 = 1 ∧ e6 = 1
  · refine ⟨_, _, _, by rw [if_pos c1]; rfl, ?_⟩
    have c0 : ¬ (e3 = 0 ∧ e6 = 0) := by omega
    simp only [if_pos c1, if_neg c0, Py.bound, ok_bind, pure_ok, Py.get?, Model.V4.lookupScore, ← Int.natCast_add_one, macroStr6]
  by_cases c2 : e3 = 0 ∧ e6 = 1
  · refine ⟨_, _, _, by simp only [if_neg c1, if_pos c2]; rfl, ?_⟩
    have c0 : ¬ (e3 = 0 ∧ e6 = 0) := by omega
    simp only [if_neg c1, if_pos c2, if_neg c0, Py.bound, ok_bind, pure_ok, Py.get?, Model.V4.lookupScore, ← Int.natCast_add_one, macroStr6]
  by_cases c3 : e3 = 1 ∧ e6 = 0
  · refine ⟨_, _, _, by simp only [if_neg c1, if_neg c2, if_pos c3]; rfl, ?_⟩
    have c0 : ¬ (e3 = 0 ∧ e6 = 0) := by omega
    simp only [if_neg c1, if_neg c2, if_pos c3, if_neg c0, Py.bound, ok_bind, pure_ok, Py.get?, Model.V4.lookupScore, ← Int.natCast_add_one, macroStr6]
  by_cases c0 : e3 = 0 ∧ e6 = 0
  · refine ⟨_, _, _, by simp only [if_neg c1, if_neg c2, if_neg c3, if_pos c0]; rfl, ?_⟩
    simp only [if_neg c1, if_neg c2, if_neg c3, if_pos c0, Py.bound, ok_bind, pure_ok, Py.get?, Model.V4.lookupScore,
      fmax_eq, ← Int.natCast_add_one, macroStr6]
  · refine ⟨_, _, _, by simp only [if_neg c1, if_neg c2, if_neg c3, if_neg c0]; rfl, ?_⟩
    simp only [if_neg c1, if_neg c2, if_neg c3, if_neg c0, Py.bound, ok_bind, pure_ok, Py.get?, Model.V4.lookupScore, ← Int.natCast_add_one, macroStr6]

theorem fdiv_some (a b : Rat) (h : b ≠ 0) : Py.fdiv (some a) (some b) = .ok (some (a / b)) := by
  unfold Py.fdiv
  split
  · next heq => exact absurd (Option.some.inj heq) h
  · next ha hb =>
      cases ha
      cases hb
      rfl
  · next hno => exact (hno a b rfl rfl).elim

/-- a step of the walk: one of the blocks eq1, eq2, eq3eq6, eq4 in front of the rest `F` of the method, which never
    reads the block's `percent_to_next_*` (`hF`) -/
theorem blk_view {β γ : Type} {G : Nat × Rat → Option γ} {h : γ → β} {n : Int} {value : Rat} {lower : Option Rat} {cur ms : Rat}
    {F : Int × Rat × Option Rat → Py.M β} (hF : ∀ n p p' x, F (n, p, x) = F (n, p', x))
    (hf : ∀ k : Nat × Rat, Py.view (F (n + (k.1 : Int), 0, some k.2)) = Py.ofOption ((G k).map h)) :
    Py.view (cbsBlk n (Py.fsub (some value) lower) cur ms >>= F) =
      Py.ofOption (((Model.V4.contribution value lower cur ms).bind G).map h) := by
  unfold cbsBlk Model.V4.contribution
  cases lower with
  | none => simpa [Py.fsub, Py.fge, Py.fle, pure_ok, ok_bind] using hf (0, 0)
  | some l =>
    simp only [Py.fsub, Py.fge, Py.fle, true_and, decide_eq_true_eq, Int.cast_zero, ge_iff_le]
    by_cases h0 : 0 ≤ value - l
    · simp only [if_pos h0, Py.div]
      by_cases hm : ms = 0
      · simp only [if_pos hm]
        rfl
      · simp only [if_neg hm, ok_bind, pure_ok, Py.fmul, Option.bind_some]
        rw [hF _ _ 0]
        simpa using hf (1, (value - l) * (cur / ms))
    · simp only [if_neg h0, pure_ok, ok_bind, Option.bind_some]
      simpa using hf (0, 0)

def mBlk5 (value : Rat) (s5 : Option Rat) : Nat × Rat :=
  match s5 with
  | none => (0, 0)
  | some l => if value - l ≥ 0 then (1, 0) else (0, 0)

theorem blk5_bind {β : Type} (n : Int) (value : Rat) (lower : Option Rat)
    (F : Int × Int × Option Rat → Py.M β) :
    cbsBlk5 n (Py.fsub (some value) lower) >>= F =
      F (n + ((mBlk5 value lower).1 : Int), 0, some (mBlk5 value lower).2) := by
  unfold cbsBlk5 mBlk5
  cases lower with
  | none =>
    simp only [Py.fsub, Py.fge, Py.fle, Bool.false_eq_true, and_false, if_false, pure_ok, ok_bind]
    simp
  | some l =>
    simp only [Py.fsub, Py.fge, Py.fle, true_and, decide_eq_true_eq, Int.cast_zero, ge_iff_le]
    by_cases h : 0 ≤ value - l
    · simp only [if_pos h, pure_ok, Py.fmul, ok_bind]
      simp
    · simp only [if_neg h, pure_ok, ok_bind]
      simp

/-- for any `n` that IS `N`: the walk's count of classes is a sum of casts, not syntactically a cast -/
theorem cbsFinal_of (self : Code4.Self) (value : Rat) (N : Nat) (x1 x2 x3 x4 x5 : Rat) (n : Int) (hn : n = N) :
    cbsFinal self value n (some x1) (some x2) (some x3) (some x4) (some x5) =
      .ok { self with base_score := some (Model.V4.finalRounding (pyMin 10 (pyMax 0
        (value - (if N = 0 then (0 : Rat) else (x1 + x2 + x3 + x4 + x5) / N))))) } := by
  subst hn
  unfold cbsFinal
  have hmax : ∀ v : Rat, Py.fmax (some 0) (some v) = some (pyMax 0 v) := by
    intro v
    simp only [Py.fmax, Py.fgt, Py.flt, pyMax, gt_iff_lt, decide_eq_true_eq]
    split <;> rfl
  have hmin : ∀ v : Rat, Py.fmin (some 10) (some v) = some (pyMin 10 v) := by
    intro v
    simp only [Py.fmin, Py.flt, pyMin, decide_eq_true_eq]
    split <;> rfl
  by_cases hN : N = 0
  · subst hN
    simp only [Nat.cast_zero, if_true, pure_ok, ok_bind, Py.fsub, Int.cast_zero, Py.q0, Py.q10, hmax, hmin,
      final_rounding_eq]
  · have hN' : ¬ ((N : Int) = 0) := by omega
    have hNq : (N : Rat) ≠ 0 := by
      exact_mod_cast hN
    simp only [if_neg hN', if_neg hN, Py.fadd, fdiv_some _ _ hNq, pure_ok, ok_bind, Py.fsub, Py.q0, Py.q10, hmax, hmin,
      final_rounding_eq, Int.cast_natCast]

/-- reading the 14 variables after the loop, in the order in which the code reads them (CR, IR, AR before SC) -/
def readVars (v1 v2 v3 v4 v5 v6 v7 v8 v9 v10 v11 v12 v13 v14 : Option Rat) : Option (List Rat) :=
  v1.bind fun d1 => v2.bind fun d2 => v3.bind fun d3 => v4.bind fun d4 => v5.bind fun d5 =>
  v6.bind fun d6 => v7.bind fun d7 => v8.bind fun d8 => v12.bind fun d12 => v13.bind fun d13 =>
  v14.bind fun d14 => v9.bind fun d9 => v10.bind fun d10 => v11.bind fun d11 =>
    some [d1, d2, d3, d4, d5, d6, d7, d8, d9, d10, d11, d12, d13, d14]

theorem distK_toOption {β : Type} (self : Code4.Self) (k : Str) (mv : List (Str × Str)) (K : Rat → Py.M β) :
    (distK self k mv K).toOption = (Model.V4.distance self.metrics mv k).bind fun d => (K d).toOption := by
  unfold distK lvl Model.V4.distance
  rw [← levels_tables_eq]
  simp only [m_eq, ok_bind, Option.bind_eq_bind, Option.pure_def]
  cases lookup k Code4.levels with
  | none =>
    simp only [Option.getD_none, Option.bind_none]
    cases Model.V4.mEff self.metrics k <;> rfl
  | some tbl =>
    simp only [Option.getD_some, Option.bind_some]
    cases Model.V4.mEff self.metrics k with
    | none => rfl
    | some cur =>
      simp only [Py.getitemO, Py.getitem, Option.bind_some]
      cases lookup cur tbl with
      | none => rfl
      | some lc =>
        simp only [ok_bind, Option.bind_some]
        cases lookup k mv with
        | none => rfl
        | some v =>
          simp only [ok_bind, Option.bind_some]
          cases lookup v tbl <;> rfl

theorem body_stop (self : Code4.Self) (mv : List (Str × Str))
    (v1 v2 v3 v4 v5 v6 v7 v8 v9 v10 v11 v12 v13 v14 : Option Rat) :
    cbsSearchBody self (v1, v2, v3, v4, v5, v6, v7, v8, v9, v10, v11, v12, v13, v14, true) mv =
      .ok (v1, v2, v3, v4, v5, v6, v7, v8, v9, v10, v11, v12, v13, v14, true) := rfl

def stateOf (d : List Rat) : Option SState :=
  match d with
  | [d1, d2, d3, d4, d5, d6, d7, d8, d9, d10, d11, d12, d13, d14] =>
    some (some d1, some d2, some d3, some d4, some d5, some d6, some d7, some d8, some d9, some d10, some d11,
      some d12, some d13, some d14, !(d.any (· < 0)))
  | _ => none

theorem mapM_cons_bind {α β γ : Type} (f : α → Option β) (a : α) (l : List α) (G : List β → Option γ) :
    ((a :: l).mapM f).bind G = (f a).bind fun d => (l.mapM f).bind fun ds => G (d :: ds) := by
  simp only [List.mapM_cons, Option.bind_eq_bind, Option.pure_def, Option.bind_assoc, Option.bind_some]

theorem length_of_mapM {α β : Type} (f : α → Option β) (l : List α) :
    ∀ d, l.mapM f = some d → d.length = l.length := by
  induction l with
  | nil =>
    intro d h
    cases h
    rfl
  | cons a l ih =>
    intro d h
    simp only [List.mapM_cons, Option.bind_eq_bind, Option.pure_def, Option.bind_eq_some_iff, Option.some.injEq] at h
    obtain ⟨b, -, bs, hbs, rfl⟩ := h
    rw [List.length_cons, ih bs hbs, List.length_cons]

theorem body_run (self : Code4.Self) (mv : List (Str × Str))
    (v1 v2 v3 v4 v5 v6 v7 v8 v9 v10 v11 v12 v13 v14 : Option Rat) :
    (cbsSearchBody self (v1, v2, v3, v4, v5, v6, v7, v8, v9, v10, v11, v12, v13, v14, false) mv).toOption =
      (Model.V4.distances self.metrics mv).bind stateOf := by
  unfold cbsSearchBody Model.V4.distances Model.V4.distMetrics
  simp only [Bool.false_eq_true, if_false]
  iterate 14 (rw [distK_toOption, mapM_cons_bind]; refine congrArg _ (funext fun _ => ?_))
  simp only [List.mapM_nil, Option.pure_def, Option.bind_some, stateOf, pure_ok, toOption_ok, Int.cast_zero, decide_not,
    Bool.decide_eq_true]

def rvS (st : SState) : Option (List Rat) :=
  match st with
  | (v1, v2, v3, v4, v5, v6, v7, v8, v9, v10, v11, v12, v13, v14, _) =>
    readVars v1 v2 v3 v4 v5 v6 v7 v8 v9 v10 v11 v12 v13 v14

def stoppedS (st : SState) : Bool :=
  match st with
  | (_, _, _, _, _, _, _, _, _, _, _, _, _, _, b) => b

theorem search_cons (m : Model.MMap) (mv : List (Str × Str)) (rest : List (List (Str × Str)))
    (last : Option (List Rat)) :
    Model.V4.search m (mv :: rest) last =
      match Model.V4.distances m mv with
      | none => none
      | some d => if d.any (· < 0) then Model.V4.search m rest (some d) else some d := rfl

theorem stateOf_of_length (d : List Rat) (h : d.length = 14) :
    ∃ st, stateOf d = some st ∧ rvS st = some d ∧ stoppedS st = !(d.any (· < 0)) := by
  iterate 14 (rcases d with _ | ⟨_, d⟩; · simp at h)
  cases d with
  | nil => exact ⟨_, rfl, rfl, rfl⟩
  | cons _ _ => simp at h

-- invariant: `rvS` of the state is the model's `last`; the flag says that the search has stopped
theorem search_fold (self : Code4.Self) (l : List (List (Str × Str))) (st : SState) :
    (List.foldlM (cbsSearchBody self) st l).toOption.bind rvS =
      if stoppedS st = true then rvS st else Model.V4.search self.metrics l (rvS st) := by
  induction l generalizing st with
  | nil =>
    obtain ⟨v1, v2, v3, v4, v5, v6, v7, v8, v9, v10, v11, v12, v13, v14, b⟩ := st
    cases b <;> rfl
  | cons mv rest ih =>
    obtain ⟨v1, v2, v3, v4, v5, v6, v7, v8, v9, v10, v11, v12, v13, v14, b⟩ := st
    rw [List.foldlM_cons, toOption_bind]
    cases b with
    | true =>
      rw [body_stop, toOption_ok, Option.bind_some]
      exact ih _
    | false =>
      rw [body_run, search_cons]
      cases hd : Model.V4.distances self.metrics mv with
      | none => rfl
      | some d =>
        obtain ⟨st', hst, hrv, hstop⟩ := stateOf_of_length d (length_of_mapM _ _ d hd)
        simp only [Option.bind_some, hst]
        rw [ih, hrv, hstop]
        cases d.any (· < 0) <;> rfl

theorem digit3_le (c c' : Prop) [Decidable c] [Decidable c'] : (if c then 0 else if c' then 1 else 2 : Nat) ≤ 2 := by
  split
  · omega
  · split <;> omega

theorem digit2_le (c : Prop) [Decidable c] : (if c then 0 else 1 : Nat) ≤ 2 := by
  split <;> omega

theorem digit5_le {c1 c2 c3 : Prop} [Decidable c1] [Decidable c2] [Decidable c3] {e : Nat}
    (h : (if c1 then some 0 else if c2 then some 1 else if c3 then some 2 else none) = some e) : e ≤ 2 := by
  split at h
  · cases h
    omega
  · split at h
    · cases h
      omega
    · split at h <;> cases h
      omega

theorem macroVector_shape (m : Model.MMap) (d : List Nat) (h : Model.V4.macroVector m = some d) :
    ∃ e1 e2 e3 e4 e5 e6, d = [e1, e2, e3, e4, e5, e6] ∧ e1 ≤ 2 ∧ e2 ≤ 2 ∧ e3 ≤ 2 ∧ e4 ≤ 2 ∧ e5 ≤ 2 ∧ e6 ≤ 2 := by
  unfold Model.V4.macroVector at h
  simp only [] at h
  split at h
  · exact absurd h (by simp)
  · rename_i e5 heq
    injection h with h
    subst h
    exact ⟨_, _, _, _, _, _, rfl, digit3_le _ _, digit2_le _, digit3_le _ _, digit3_le _ _, digit5_le heq, digit2_le _⟩

theorem natToStr_small (n : Nat) (h : n ≤ 2) : natToStr n = [Char.ofNat (48 + n)] := by
  rcases n with _ | _ | _ | n
  · decide
  · decide
  · decide
  · omega

theorem int_small (n : Nat) (h : n ≤ 2) : Py.int (natToStr n) = .ok (n : Int) := by
  rcases n with _ | _ | _ | n
  · decide
  · decide
  · decide
  · omega

theorem charAt_mvKey (e1 e2 e3 e4 e5 e6 : Nat) (h1 : e1 ≤ 2) (h2 : e2 ≤ 2) (h3 : e3 ≤ 2) (h4 : e4 ≤ 2)
    (h5 : e5 ≤ 2) (h6 : e6 ≤ 2) :
    Py.charAt (Model.V4.mvKey [e1, e2, e3, e4, e5, e6]) 0 = .ok (natToStr e1) ∧
    Py.charAt (Model.V4.mvKey [e1, e2, e3, e4, e5, e6]) 1 = .ok (natToStr e2) ∧
    Py.charAt (Model.V4.mvKey [e1, e2, e3, e4, e5, e6]) 2 = .ok (natToStr e3) ∧
    Py.charAt (Model.V4.mvKey [e1, e2, e3, e4, e5, e6]) 3 = .ok (natToStr e4) ∧
    Py.charAt (Model.V4.mvKey [e1, e2, e3, e4, e5, e6]) 4 = .ok (natToStr e5) ∧
    Py.charAt (Model.V4.mvKey [e1, e2, e3, e4, e5, e6]) 5 = .ok (natToStr e6) := by
  simp only [Model.V4.mvKey, List.flatMap_cons, List.flatMap_nil, natToStr_small _ h1, natToStr_small _ h2,
    natToStr_small _ h3, natToStr_small _ h4, natToStr_small _ h5, natToStr_small _ h6]
  exact ⟨rfl, rfl, rfl, rfl, rfl, rfl⟩

theorem table_keys_noN : ∀ k ∈ keys Gen.V4.lookupTable, ¬ 'N' ∈ k := by
  decide +kernel

theorem lookup_N (k : Str) (h : 'N' ∈ k) : lookup k Gen.V4.lookupTable = none := by
  cases hl : lookup k Gen.V4.lookupTable with
  | none => rfl
  | some v => exact absurd h (table_keys_noN k (mem_keys_of_lookup hl))

def initState : SState :=
  ((none : Option Rat), (none : Option Rat), (none : Option Rat), (none : Option Rat), (none : Option Rat), (none : Option Rat), (none : Option Rat), (none : Option Rat), (none : Option Rat), (none : Option Rat), (none : Option Rat), (none : Option Rat), (none : Option Rat), (none : Option Rat), false)

theorem foreign_distK {β : Type} (self : Code4.Self) (k : Str) (mv : List (Str × Str))
    (K : Rat → Py.M β) (hK : ∀ d, Py.Foreign (K d)) : Py.Foreign (distK self k mv K) := by
  have hm : ∀ k, Py.Foreign (Code4.m self k) := fun k => Py.Foreign.of_ok (m_eq self k)
  unfold distK
  foreign [hm, hK]

theorem foreign_cbsSearchBody (self : Code4.Self) (st : SState) (mv : List (Str × Str)) :
    Py.Foreign (cbsSearchBody self st mv) := by
  obtain ⟨v1, v2, v3, v4, v5, v6, v7, v8, v9, v10, v11, v12, v13, v14, b⟩ := st
  cases b
  · unfold cbsSearchBody
    simp only [Bool.false_eq_true, if_false]
    iterate 14 (refine foreign_distK _ _ _ _ fun _ => ?_)
    exact Py.Foreign.pure _
  · rw [body_stop]
    exact Py.Foreign.ok _

-- (`hK` for every state: which states the loop can leave is not tracked)
theorem search_view {γ : Type} (self : Code4.Self) (maxvs : List (List (Str × Str))) (K : SState → Py.M Code4.Self)
    (G : List Rat → Option γ) (h : γ → Code4.Self)
    (hK : ∀ st, Py.view (K st) = Py.ofOption (((rvS st).bind G).map h)) :
    Py.view (List.foldlM (cbsSearchBody self) initState maxvs >>= K) =
      Py.ofOption (((Model.V4.search self.metrics maxvs none).bind G).map h) := by
  have hs : (List.foldlM (cbsSearchBody self) initState maxvs).toOption.bind rvS =
      Model.V4.search self.metrics maxvs none := search_fold self maxvs initState
  rw [Py.view_bind, Py.view_eq_ofOption rfl (Py.Foreign.foldlM (foreign_cbsSearchBody self) _ _), ← hs]
  cases (List.foldlM (cbsSearchBody self) initState maxvs).toOption with
  | none => rfl
  | some st => exact hK st

theorem compute_base_score_view (self : Code4.Self) :
    Py.view (Code4.compute_base_score self) = Py.ofOption ((Model.V4.baseScore self.metrics).map (withBase self)) := by
  unfold Code4.compute_base_score Model.V4.baseScore
  obtain ⟨s, hs, heq, hN⟩ := macroVector_spec self
  refine Py.view_bind_ok hs ?_
  refine Py.view_bind_ok (mapM_pure_of_mem (g := fun k => decide (Model.V4.mEff self.metrics k = some c!"N"))
    fun k _ => by rw [m_eq]; rfl) ?_
  by_cases hc : ([c!"VC", c!"VI", c!"VA", c!"SC", c!"SI", c!"SA"].all fun k =>
      decide (Model.V4.mEff self.metrics k = some c!"N")) = true
  · rw [if_pos hc, if_pos (by rw [List.all_map]; exact hc)]
    rfl
  rw [if_neg hc, if_neg (by rw [List.all_map]; exact hc)]
  cases h : Model.V4.macroVector self.metrics with
  | none =>
    -- the string contains 'N': no such key in the look-up table
    rw [Py.view_bind, Py.view_getitem, lookup_N s (hN h)]
    rfl
  | some d =>
    obtain ⟨e1, e2, e3, e4, e5, e6, rfl, h1, h2, h3, h4, h5, h6⟩ := macroVector_shape _ _ h
    obtain ⟨c0, c1, c2, c3, c4, c5⟩ := charAt_mvKey e1 e2 e3 e4 e5 e6 h1 h2 h3 h4 h5 h6
    rw [heq _ h]
    refine Py.view_bind_opt_into (Py.view_getitem _ _) fun value => ?_
    refine Py.view_bind_ok c0 (Py.view_bind_ok (int_small _ h1) ?_)
    refine Py.view_bind_ok c1 (Py.view_bind_ok (int_small _ h2) ?_)
    refine Py.view_bind_ok c2 (Py.view_bind_ok (int_small _ h3) ?_)
    refine Py.view_bind_ok c3 (Py.view_bind_ok (int_small _ h4) ?_)
    refine Py.view_bind_ok c4 (Py.view_bind_ok (int_small _ h5) ?_)
    refine Py.view_bind_ok c5 (Py.view_bind_ok (int_small _ h6) ?_)
    obtain ⟨a, b, c, hs1, hs2⟩ := s36_eq e1 e2 e3 e4 e5 e6
    refine Py.view_bind_ok hs1 (Py.view_bind_ok hs2 ?_)
    refine Py.view_bind_ok c0 (Py.view_bind_opt_into (Py.view_getitem _ _) fun m1 => ?_)
    refine Py.view_bind_ok c1 (Py.view_bind_opt_into (Py.view_getitem _ _) fun m2 => ?_)
    refine Py.view_bind_ok c5 (Py.view_bind_ok c2 (Py.view_bind_opt_into (Py.view_getitem _ _) fun m36 => ?_))
    refine Py.view_bind_ok c3 (Py.view_bind_opt_into (Py.view_getitem _ _) fun m4 => ?_)
    refine Py.view_bind_ok c4 (Py.view_bind_opt_into (Py.view_getitem _ _) fun m5 => ?_)
    refine Py.view_bind_ok (cbsProduct_eq m1 m2 m36 m4 m5) ?_
    refine search_view self _ _ _ _ fun st => ?_
    obtain ⟨v1, v2, v3, v4, v5, v6, v7, v8, v9, v10, v11, v12, v13, v14, b⟩ := st
    -- in the code's reading order (`readVars`): unbound, both sides fail
    rcases v1 with _ | d1
    · rfl
    rcases v2 with _ | d2
    · rfl
    rcases v3 with _ | d3
    · rfl
    rcases v4 with _ | d4
    · rfl
    rcases v5 with _ | d5
    · rfl
    rcases v6 with _ | d6
    · rfl
    rcases v7 with _ | d7
    · rfl
    rcases v8 with _ | d8
    · rfl
    rcases v12 with _ | d12
    · rfl
    rcases v13 with _ | d13
    · rfl
    rcases v14 with _ | d14
    · rfl
    rcases v9 with _ | d9
    · rfl
    rcases v10 with _ | d10
    · rfl
    rcases v11 with _ | d11
    · rfl
    -- all 14 are bound: the reads reduce away, `rvS` of the state is the list and the model's `match` on it reduces
    show Py.view (Py.getitemN _ _ >>= _) = Py.ofOption (((lookup e1 _).bind _).map _)
    refine Py.view_bind_map_into (Py.view_getitemN_nat _ _) fun ms1 => ?_
    refine Py.view_bind_map_into (Py.view_getitemN_nat _ _) fun ms2 => ?_
    refine Py.view_bind_map_into (Py.view_getitemNN_nat _ _ _) fun ms36 => ?_
    refine Py.view_bind_map_into (Py.view_getitemN_nat _ _) fun ms4 => ?_
    refine blk_view (fun _ _ _ _ => rfl) fun k1 => ?_
    refine blk_view (fun _ _ _ _ => rfl) fun k2 => ?_
    refine blk_view (fun _ _ _ _ => rfl) fun k36 => ?_
    refine blk_view (fun _ _ _ _ => rfl) fun k4 => ?_
    refine (congrArg Py.view (blk5_bind _ _ _ _)).trans ?_
    refine (congrArg Py.view (cbsFinal_of self value (k1.1 + k2.1 + k36.1 + k4.1 + (mBlk5 value _).1) _ _ _ _ _ _
      (by push_cast; ring))).trans ?_
    rfl

theorem compute_base_score_state (self : Code4.Self) :
    (Code4.compute_base_score self).toOption = (Model.V4.baseScore self.metrics).map (withBase self) :=
  Py.toOption_of_view (compute_base_score_view self)

end Aux

/-- `compute_base_score()`, for EVERY metric dict: the translated source (binary floats modelled by exact
    rationals, NaN by `none`) and the model's `baseScore` produce the same score or both raise -/
theorem compute_base_score_eq (self : Code4.Self) :
    (Code4.compute_base_score self).toOption.map (fun x => x.base_score) =
      (Model.V4.baseScore self.metrics).map some := by
  rw [Aux.compute_base_score_state]
  cases Model.V4.baseScore self.metrics <;> rfl

theorem scores_eq (self : Code4.Self) : Code4.scores self = .ok [self.base_score] := rfl

theorem severities_eq (self : Code4.Self) : Code4.severities self = .ok [self.severity] := rfl

theorem scores_eq_model (self : Code4.Self) (o : Model.V4.Obj) (hb : self.base_score = some o.base) :
    Code4.scores self = .ok o.scores := by
  rw [scores_eq, hb]; rfl

theorem severities_eq_model (self : Code4.Self) (o : Model.V4.Obj) (hs : self.severity = some o.severity) :
    (Code4.severities self) = .ok (o.severities.map some) := by
  rw [severities_eq, hs]; rfl

theorem eq_eq (self o : Code4.Self) (a b : Str) (ha : Code4.clean_vector self true = .ok a) (hb : Code4.clean_vector o true = .ok b) :
    Code4.__eq__ self o = .ok (decide (a = b)) := by
  rw [Code4.__eq__, ha, hb]
  rfl

theorem hash_eq (self : Code4.Self) (a : Str) (ha : Code4.clean_vector self true = .ok a) :
    Code4.__hash__ self = .ok a := by
  rw [Code4.__hash__, ha]
  rfl

theorem eq_hash (self o : Code4.Self) (a b : Str) (ha : Code4.clean_vector self true = .ok a) (hb : Code4.clean_vector o true = .ok b)
    (h : Code4.__eq__ self o = .ok true) : Code4.__hash__ self = Code4.__hash__ o := by
  rw [eq_eq self o a b ha hb] at h
  have : a = b := by simpa using h
  rw [hash_eq self a ha, hash_eq o b hb, this]

end Cvss.Props.CodeTie4
