/-
  C05 — outputs do not depend on field order or on spelling out Not Defined.
-/
import Cvss.Lemmas.Any
namespace Cvss.Props.C05
open Cvss Cvss.Model Cvss.Lemmas.Construct Cvss.Lemmas.Invariance

/-- every optional metric admits the Not Defined token (so it can be spelled out), no mandatory one does -/
def ndLegal (T : Tables) (nd : Str) : Bool :=
  T.abbrs.all (fun m => match lookup m T.legal with
    | some vs => if m ∈ T.mandatory then !(nd ∈ vs) else decide (nd ∈ vs)
    | none => false)

theorem nd_legal : ndLegal V2.tables V2.ND = true ∧ ndLegal V3.tables V3.X = true ∧ ndLegal V4.tables V4.X = true := by
  decide +kernel

theorem ndLegal_pair {T : Tables} {g : Spec.Grammar.G} (hp : C04.Pinned T g) {nd : Str}
    (h : ndLegal T nd = true) {k : Str} (hk : k ∈ T.abbrs) (hopt : k ∉ T.mandatory) :
    LegalPair T (k, nd) := by
  have := List.all_eq_true.1 h k hk
  split at this
  · rename_i vs hvs
    rw [if_neg hopt] at this
    exact legalPair_of_mem hp hk hvs (of_decide_eq_true this)
  · cases this

theorem ndLegal_mandatory {T : Tables} {nd : Str} (h : ndLegal T nd = true) {k : Str} {vs : List Str}
    (hk : k ∈ T.abbrs) (hm : k ∈ T.mandatory) (hvs : lookup k T.legal = some vs) : nd ∉ vs := by
  have := List.all_eq_true.1 h k hk
  simpa [hvs, hm] using this

theorem ndLegal_ver (v : Ver) : ndLegal v.tables v.nd = true := by
  cases v
  exacts [nd_legal.1, nd_legal.2.1, nd_legal.2.2]

theorem ndLegal_pair_ver (v : Ver) {k : Str} (hk : k ∈ v.tables.abbrs) (hopt : k ∉ v.tables.mandatory) :
    LegalPair v.tables (k, v.nd) :=
  ndLegal_pair v.pinned (ndLegal_ver v) hk hopt

def obs2 (o : V2.Obj) : List (Option Rat) × List Str × Str × Str × Str × Str × Str :=
  (o.scores, o.severities, o.clean, (AnyObj.o2 o).rh, o.temporalVector, o.environmentalVector, (AnyObj.o2 o).hashKey)

def obs3 (o : V3.Obj) : List (Option Rat) × List Str × Str × Str × Str × Str × Str × Str :=
  (o.scores, o.severities, o.clean true, o.clean false, (AnyObj.o3 o).rh, o.temporalVector, o.environmentalVector,
   (AnyObj.o3 o).hashKey)

def obs4 (o : V4.Obj) : List (Option Rat) × List Str × Str × Str × Str × Str :=
  (o.scores, o.severities, o.clean true, o.clean false, (AnyObj.o4 o).rh, (AnyObj.o4 o).hashKey)

/-- v2: two accepted vectors whose assignments agree on every metric of the table have the same
    observables and are equal objects -/
theorem v2_obs_of_assignment (s s' : Str) (o o' : V2.Obj) (h : V2.construct s = .ok o) (h' : V2.construct s' = .ok o')
    (he : ∀ k ∈ keys Gen.V2.abbrs, assignment V2.ND o.metrics k = assignment V2.ND o'.metrics k) :
    obs2 o = obs2 o' ∧ (AnyObj.o2 o).eq (AnyObj.o2 o') = true := by
  have c := toVer2 h
  have c' := toVer2 h'
  have ha : assignment V2.ND o.metrics = assignment V2.ND o'.metrics := assignment_eq_of_table c c' he
  obtain ⟨o1, o2, o3, o4, o5, o6⟩ := obs_congr c c' rfl ha
  -- the sub-vectors list `metrics.get(k, "ND")`, which is the assignment: `temporalVector` unfolds to the function below
  have htv : o.temporalVector = o'.temporalVector :=
    congrArg (fun a : Str → Str => join '/' (Gen.V2.temporal.map (fun k => k ++ ':' :: a k))) ha
  have hev : o.environmentalVector = o'.environmentalVector :=
    congrArg (fun a : Str → Str => join '/' (Gen.V2.environmental.map (fun k => k ++ ':' :: a k))) ha
  refine ⟨?_, o6⟩
  simp only [obs2, show o.scores = o'.scores from o1, show o.severities = o'.severities from o2,
    show o.clean = o'.clean from o3 true, o4, o5, htv, hev]

/-- v3: … provided they have the same minor version (the environmental equations of 3.0 and 3.1 differ) -/
theorem v3_obs_of_assignment (s s' : Str) (o o' : V3.Obj) (h : V3.construct s = .ok o) (h' : V3.construct s' = .ok o')
    (hm : o.minor = o'.minor)
    (he : ∀ k ∈ keys Gen.V3.abbrs, assignment V3.X o.orig k = assignment V3.X o'.orig k) :
    obs3 o = obs3 o' ∧ (AnyObj.o3 o).eq (AnyObj.o3 o') = true := by
  have c := toVer3 h
  have c' := toVer3 h'
  have ha : assignment V3.X o.orig = assignment V3.X o'.orig := assignment_eq_of_table c c' he
  obtain ⟨o1, o2, o3, o4, o5, o6⟩ := obs_congr c c' hm ha
  -- the sub-vectors list the completed map (`temporalVector` unfolds to the function below), which the assignment determines
  have hsh : (fun k => (lookup k o.metrics).getD V3.X) = fun k => (lookup k o'.metrics).getD V3.X :=
    funext fun k => by rw [v3_metrics_getD h k, v3_metrics_getD h' k, ha]
  have htv : o.temporalVector = o'.temporalVector :=
    congrArg (fun a : Str → Str => join '/' (Gen.V3.temporal.map (fun k => k ++ ':' :: a k))) hsh
  have hev : o.environmentalVector = o'.environmentalVector :=
    congrArg (fun a : Str → Str => join '/' (Gen.V3.environmental.map (fun k => k ++ ':' :: a k))) hsh
  refine ⟨?_, o6⟩
  simp only [obs3, show o.scores = o'.scores from o1, show o.severities = o'.severities from o2,
    show ∀ p, o.clean p = o'.clean p from o3, o4, o5, htv, hev]

theorem v4_obs_of_assignment (s s' : Str) (o o' : V4.Obj) (h : V4.construct s = .ok o) (h' : V4.construct s' = .ok o')
    (he : ∀ k ∈ keys Gen.V4.abbrs, assignment V4.X o.orig k = assignment V4.X o'.orig k) :
    obs4 o = obs4 o' ∧ (AnyObj.o4 o).eq (AnyObj.o4 o') = true := by
  have c := toVer4 h
  have c' := toVer4 h'
  obtain ⟨o1, o2, o3, o4, o5, o6⟩ := obs_congr c c' rfl (assignment_eq_of_table c c' he)
  refine ⟨?_, o6⟩
  simp only [obs4, show o.scores = o'.scores from o1, show o.severities = o'.severities from o2,
    show ∀ p, o.clean p = o'.clean p from o3, o4, o5]

/-- any permutation of the fields of an accepted vector is accepted, and states the same values -/
theorem perm_constructed {v : Ver} {s : Str} {a : AnyObj} (h : construct v s = .ok a) {m' : MMap}
    (hp : a.orig.Perm m') :
    ∃ a', construct v (v.pfx a.minor ++ join '/' (m'.map fieldOf)) = .ok a' ∧ a'.orig = m' ∧ a'.minor = a.minor ∧
      ∀ k, assignment v.nd a.orig k = assignment v.nd a'.orig k := by
  have c := construct_spec h
  obtain ⟨a', ha', rfl, hmin⟩ := construct_of_accepted (c.accepted.perm hp) c.minorOk
  exact ⟨a', ha', rfl, hmin, assignment_perm _ hp c.accepted.nodup⟩

/-- spelling out an absent optional metric as Not Defined is accepted and states the same values -/
theorem nd_constructed {v : Ver} {s : Str} {a : AnyObj} (h : construct v s = .ok a) {k : Str}
    (hk : k ∈ v.tables.abbrs) (hopt : k ∉ v.tables.mandatory) (habs : lookup k a.orig = none) :
    ∃ a', construct v (s ++ '/' :: fieldOf (k, v.nd)) = .ok a' ∧ a'.orig = a.orig ++ [(k, v.nd)] ∧
      a'.minor = a.minor ∧ ∀ j, assignment v.nd a.orig j = assignment v.nd a'.orig j := by
  have c := construct_spec h
  obtain ⟨a', ha', hor, hmin⟩ := construct_of_accepted (c.accepted.append (ndLegal_pair_ver v hk hopt) habs) c.minorOk
  rw [render_append _ _ c.accepted.ne, ← List.append_assoc, ← c.render] at ha'
  exact ⟨a', ha', hor, hmin, fun j => by rw [hor]; exact assignment_append_nd _ _ k j⟩

theorem v2_perm_accepted (s : Str) (o : V2.Obj) (h : V2.construct s = .ok o) (m' : MMap) (hp : o.metrics.Perm m') :
    ∃ o', V2.construct (join '/' (m'.map fieldOf)) = .ok o' ∧ o'.metrics = m' ∧
      ∀ k, assignment V2.ND o.metrics k = assignment V2.ND o'.metrics k := by
  obtain ⟨o', ho', hm, -, hk⟩ := ofVer (perm_constructed (toVer2 h) hp)
  exact ⟨o', ho', hm, hk⟩

theorem v2_nd_accepted (s : Str) (o : V2.Obj) (h : V2.construct s = .ok o) (k : Str)
    (hk : k ∈ keys Gen.V2.abbrs) (hopt : k ∉ Gen.V2.mandatory) (habs : lookup k o.metrics = none) :
    ∃ o', V2.construct (s ++ '/' :: fieldOf (k, V2.ND)) = .ok o' ∧ o'.metrics = o.metrics ++ [(k, V2.ND)] ∧
      ∀ j, assignment V2.ND o.metrics j = assignment V2.ND o'.metrics j := by
  obtain ⟨o', ho', hm, -, hj⟩ := ofVer (nd_constructed (toVer2 h) hk hopt habs)
  exact ⟨o', ho', hm, hj⟩

theorem v3_perm_accepted (s : Str) (o : V3.Obj) (h : V3.construct s = .ok o) (m' : MMap) (hp : o.orig.Perm m') :
    ∃ o', V3.construct (V3.versionPrefix o.minor ++ join '/' (m'.map fieldOf)) = .ok o' ∧ o'.orig = m' ∧
      o'.minor = o.minor ∧ ∀ k, assignment V3.X o.orig k = assignment V3.X o'.orig k := by
  exact ofVer (perm_constructed (toVer3 h) hp)

theorem v3_nd_accepted (s : Str) (o : V3.Obj) (h : V3.construct s = .ok o) (k : Str)
    (hk : k ∈ keys Gen.V3.abbrs) (hopt : k ∉ Gen.V3.mandatory) (habs : lookup k o.orig = none) :
    ∃ o', V3.construct (s ++ '/' :: fieldOf (k, V3.X)) = .ok o' ∧ o'.orig = o.orig ++ [(k, V3.X)] ∧
      o'.minor = o.minor ∧ ∀ j, assignment V3.X o.orig j = assignment V3.X o'.orig j := by
  exact ofVer (nd_constructed (toVer3 h) hk hopt habs)

theorem v4_perm_constructed (s : Str) (o : V4.Obj) (h : V4.construct s = .ok o) (m' : MMap) (hp : o.orig.Perm m') :
    ∃ o', V4.construct (V4.pfx ++ join '/' (m'.map fieldOf)) = .ok o' ∧ o'.orig = m' ∧
      ∀ k, assignment V4.X o.orig k = assignment V4.X o'.orig k := by
  obtain ⟨o', ho', hm, -, hk⟩ := ofVer (perm_constructed (toVer4 h) hp)
  exact ⟨o', ho', hm, hk⟩

theorem v4_nd_constructed (s : Str) (o : V4.Obj) (h : V4.construct s = .ok o) (k : Str)
    (hk : k ∈ keys Gen.V4.abbrs) (hopt : k ∉ Gen.V4.mandatory) (habs : lookup k o.orig = none) :
    ∃ o', V4.construct (s ++ '/' :: fieldOf (k, V4.X)) = .ok o' ∧ o'.orig = o.orig ++ [(k, V4.X)] ∧
      ∀ j, assignment V4.X o.orig j = assignment V4.X o'.orig j := by
  obtain ⟨o', ho', hm, -, hj⟩ := ofVer (nd_constructed (toVer4 h) hk hopt habs)
  exact ⟨o', ho', hm, hj⟩

/-- v4 at the level of the parser (these hold without the totality of v4 scoring, C02): permutation and explicit X are
    accepted and state the same values; the clean vector (hence equality and hash) is unchanged -/
theorem v4_perm_accepted (s : Str) (m : MMap) (h : V4.parse s = .ok m) (m' : MMap) (hp : m.Perm m') :
    V4.parse (V4.pfx ++ join '/' (m'.map fieldOf)) = .ok m' ∧
      (∀ k, assignment V4.X m k = assignment V4.X m' k) ∧ V4.cleanOf m' true = V4.cleanOf m true := by
  obtain ⟨-, acc⟩ := (C04.v4_parse_iff _ _).1 h
  have ha := assignment_perm V4.X hp acc.nodup
  exact ⟨(C04.v4_parse_iff _ _).2 ⟨rfl, acc.perm hp⟩, ha, (v4_cleanOf_congr true (funext ha)).symm⟩

theorem v4_nd_accepted (s : Str) (m : MMap) (h : V4.parse s = .ok m) (k : Str)
    (hk : k ∈ keys Gen.V4.abbrs) (hopt : k ∉ Gen.V4.mandatory) (habs : lookup k m = none) :
    V4.parse (s ++ '/' :: fieldOf (k, V4.X)) = .ok (m ++ [(k, V4.X)]) ∧
      (∀ j, assignment V4.X m j = assignment V4.X (m ++ [(k, V4.X)]) j) ∧
      V4.cleanOf (m ++ [(k, V4.X)]) true = V4.cleanOf m true := by
  obtain ⟨hs, acc⟩ := (C04.v4_parse_iff _ _).1 h
  have ha := fun j => assignment_append_nd V4.X m k j
  refine ⟨?_, ha, (v4_cleanOf_congr true (funext ha)).symm⟩
  rw [hs, List.append_assoc, ← render_append _ _ acc.ne]
  exact (C04.v4_parse_iff _ _).2 ⟨rfl, acc.append (ndLegal_pair_ver .v4 hk hopt) habs⟩

end Cvss.Props.C05
