/-
  C15 — temporal_vector()/environmental_vector() are faithful and score-preserving.
-/
import Cvss.Props.C05
import Cvss.Props.C06
namespace Cvss.Props.C15
open Cvss Cvss.Model Cvss.Lemmas.Construct Cvss.Lemmas.Invariance

/-- the three groups hold every metric of the table once: stated as a permutation (the lists are in fact equal) -/
theorem groups_partition :
    (Gen.V2.mandatory ++ Gen.V2.temporal ++ Gen.V2.environmental).Perm (keys Gen.V2.abbrs) ∧
    (Gen.V3.mandatory ++ Gen.V3.temporal ++ Gen.V3.environmental).Perm (keys Gen.V3.abbrs) := by
  decide +kernel

/-- v2: both sub-vectors list every metric of their group once, in the order of the library's `TEMPORAL_METRICS` /
    `ENVIRONMENTAL_METRICS`, with the stated value, or ND when it was omitted or Not Defined -/
theorem v2_subvectors (o : V2.Obj) :
    o.temporalVector = join '/' (Gen.V2.temporal.map (fun k => fieldOf (k, assignment V2.ND o.metrics k))) ∧
    o.environmentalVector = join '/' (Gen.V2.environmental.map (fun k => fieldOf (k, assignment V2.ND o.metrics k))) :=
  ⟨rfl, rfl⟩

/-- the value v3 sub-vectors show for a metric: the stated value; for a Modified metric that was omitted or X, the base
    metric's value -/
def shown3 (a : Str → Str) (k : Str) : Str :=
  if k ∈ V3.modifiedMetrics ∧ a k = V3.X then a (k.drop 1) else a k

theorem modified_in_table : ∀ k ∈ V3.modifiedMetrics, k ∈ V3.tables.abbrs := by decide +kernel

theorem v3_subvectors (s : Str) (o : V3.Obj) (h : V3.construct s = .ok o) :
    o.temporalVector = join '/' (Gen.V3.temporal.map (fun k => fieldOf (k, shown3 (assignment V3.X o.orig) k))) ∧
    o.environmentalVector =
      join '/' (Gen.V3.environmental.map (fun k => fieldOf (k, shown3 (assignment V3.X o.orig) k))) := by
  have hk := v3_metrics_getD h
  unfold V3.Obj.temporalVector V3.Obj.environmentalVector
  simp only [hk]
  exact ⟨rfl, rfl⟩

theorem shown3_plain (a : Str → Str) {k : Str} (h : k ∉ V3.modifiedMetrics) : shown3 a k = a k := by
  unfold shown3; rw [if_neg (fun hh => h hh.1)]

theorem eff_shown3 (a : Str → Str) {b : Str} (hb : b ∈ C06.base3) :
    Spec.V3.eff (shown3 a) ('M' :: b) b = Spec.V3.eff a ('M' :: b) b := by
  have hb' := C06.v3_plain_not_modified b (List.mem_append_left _ hb)
  unfold Spec.V3.eff
  rw [shown3_plain a hb', C01.X_eq]
  have hs : shown3 a ('M' :: b) = if a ('M' :: b) = V3.X then a b else a ('M' :: b) := by
    unfold shown3
    by_cases h : a ('M' :: b) = V3.X
    · rw [if_pos ⟨C06.v3_modified_of_base b hb, h⟩, if_pos h]; rfl
    · rw [if_neg (fun hh => h hh.2), if_neg h]
  rw [hs]
  by_cases h : a ('M' :: b) = V3.X
  · rw [if_pos h]; split <;> rfl
  · rw [if_neg h, if_neg h]

/-- v3: showing a Modified metric with its base value does not change the scores -/
theorem spec_scores_shown3 (minor : Nat) (a : Str → Str) :
    Spec.V3.scores minor (shown3 a) = Spec.V3.scores minor a := by
  have hplain : ∀ k ∈ C06.base3 ++ C06.weighted3, shown3 a k = a k := fun k hk =>
    shown3_plain a (C06.v3_plain_not_modified k hk)
  apply C06.v3_scores_congr
  · exact fun k hk => hplain k (List.mem_append_left _ hk)
  · exact fun b hb => eff_shown3 a hb
  · exact fun k hk => by rw [hplain k (List.mem_append_right _ hk)]

theorem shown3_legalPair {m : MMap} (acc : Accepted V3.tables m) {k : Str} (hk : k ∈ V3.tables.abbrs) :
    LegalPair V3.tables (k, shown3 (assignment V3.X m) k) := by
  unfold shown3
  split
  · rename_i h
    have hb := C01.modified_base_mandatory k h.1
    obtain ⟨v, hv⟩ := lookup_of_mem_keys (acc.mandatory _ hb)
    obtain ⟨-, ⟨vs, hvs, hmem⟩, -, -⟩ := acc.legal _ (lookup_mem hv)
    have hfact := (C01.modified_accepts_base_tokens k h.1 v (by simp only at hvs; rw [hvs]; exact hmem)).1
    unfold C01.legalTok at hfact
    rw [assignment_of_some hv]
    cases hlk : lookup k V3.tables.legal with
    | none => rw [hlk] at hfact; simp at hfact
    | some ws =>
      rw [hlk] at hfact
      exact legalPair_of_mem C04.pinned3 hk hlk hfact
  · exact assignment_legalPair (fun k => C05.ndLegal_pair_ver .v3) acc hk

/-- v2: the base metrics followed by both sub-vectors form a vector that is accepted and has exactly
    the same scores -/
theorem v2_reassembled (s : Str) (o : V2.Obj) (h : V2.construct s = .ok o) :
    ∃ o', V2.construct (join '/' (Gen.V2.mandatory.map (fun k => fieldOf (k, assignment V2.ND o.metrics k))) ++
            '/' :: o.temporalVector ++ '/' :: o.environmentalVector) = .ok o' ∧ o'.scores = o.scores := by
  have c := toVer2 h
  have acc : Accepted V2.tables o.metrics := (construct_spec c).accepted
  have hperm : (Gen.V2.mandatory ++ Gen.V2.temporal ++ Gen.V2.environmental).Perm V2.tables.abbrs :=
    groups_partition.1
  -- the listed map is accepted and states the same values, so it re-renders to an object with the same scores
  obtain ⟨a', ha', -, -, hsc, -⟩ := rerender c
    (Accepted.tabulate (T := V2.tables) (assignment V2.ND o.metrics) (by decide) (hperm.nodup_iff.2 C04.pinned2.nodup)
      (fun k hk => List.mem_append_left _ (List.mem_append_left _ hk))
      (fun k hk => assignment_legalPair (fun k => C05.ndLegal_pair_ver .v2) acc (hperm.mem_iff.1 hk)))
    (assignment_tabulate V2.ND _ (fun k hk => acc.assignment_off V2.ND (fun h => hk (hperm.mem_iff.2 h))))
  obtain ⟨o', ho', rfl⟩ := map_ok_iff.1 ha'
  refine ⟨o', ?_, hsc⟩
  rw [(v2_subvectors o).1, (v2_subvectors o).2, join_groups _ _ _ _ (by decide) (by decide) (by decide)]
  exact ho'

theorem v3_reassembled (s : Str) (o : V3.Obj) (h : V3.construct s = .ok o) :
    ∃ o', V3.construct (V3.versionPrefix o.minor ++
            join '/' (Gen.V3.mandatory.map (fun k => fieldOf (k, assignment V3.X o.orig k))) ++
            '/' :: o.temporalVector ++ '/' :: o.environmentalVector) = .ok o' ∧ o'.scores = o.scores := by
  have c := construct_spec (toVer3 h)
  have acc : Accepted V3.tables o.orig := c.accepted
  have hperm : (Gen.V3.mandatory ++ Gen.V3.temporal ++ Gen.V3.environmental).Perm V3.tables.abbrs :=
    groups_partition.2
  obtain ⟨a', ha', hor, hmin⟩ := construct_of_accepted (v := .v3)
    (Accepted.tabulate (shown3 (assignment V3.X o.orig)) (by decide) (hperm.nodup_iff.2 C04.pinned3.nodup)
      (fun k hk => List.mem_append_left _ (List.mem_append_left _ hk))
      (fun k hk => shown3_legalPair acc (hperm.mem_iff.1 hk))) c.minorOk
  obtain ⟨o', ho', rfl⟩ := map_ok_iff.1 ha'
  -- the new object states the SHOWN values, which score like the stated ones
  have hass : assignment V3.X o'.orig = shown3 (assignment V3.X o.orig) := by
    rw [show o'.orig = _ from hor]
    refine assignment_tabulate V3.X _ (fun k hk => ?_)
    replace hk : k ∉ V3.tables.abbrs := fun h => hk (hperm.mem_iff.2 h)
    rw [shown3_plain _ (fun hmod => hk (modified_in_table k hmod))]
    exact acc.assignment_off V3.X hk
  have hsc' := (construct_spec ha').scores
  refine ⟨o', ?_, ?_⟩
  · have hmand : Gen.V3.mandatory.map (fun k => fieldOf (k, assignment V3.X o.orig k)) =
        Gen.V3.mandatory.map (fun k => fieldOf (k, shown3 (assignment V3.X o.orig) k)) :=
      List.map_congr_left fun k hk => by
        rw [shown3_plain _ (C06.v3_plain_not_modified k (List.mem_append_left _ hk))]
    rw [(v3_subvectors s o h).1, (v3_subvectors s o h).2, hmand, List.append_assoc, List.append_assoc,
      ← List.append_assoc (join _ _), join_groups _ _ _ _ (by decide) (by decide) (by decide)]
    exact ho'
  · have hmin' : o'.minor = o.minor := hmin
    calc o'.scores = Spec.V3.scores o'.minor (assignment V3.X o'.orig) := hsc'
      _ = Spec.V3.scores o.minor (assignment V3.X o.orig) := by rw [hass, hmin', spec_scores_shown3]
      _ = o.scores := c.scores.symm

end Cvss.Props.C15
