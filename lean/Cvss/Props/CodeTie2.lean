/-
  Source tie, CVSS2: the model `Cvss.Model.V2` equals the translation of cvss/cvss2.py that `tools/gen_code.py`
  regenerates from the source text on every run (`Cvss.Gen.Code2`).  The scoring part is stated as equations through
  `toOption` plus `Py.Foreign`, which together are what the model sees.  Every theorem declared directly in this
  namespace is an obligation; its lemmas stand in front of it, in `Aux`.
-/
import Cvss.Lemmas.PyM
import Cvss.Gen.Code2
import Cvss.Model.V2
namespace Cvss.Props.CodeTie2
open Cvss Cvss.Gen

namespace Aux

theorem to_pure {α : Type} (a : α) : (pure a : Py.M α).toOption = some a := rfl

end Aux

theorem round_eq (x : Rat) : Code2.round_to_1_decimal x = .ok (roundHalfUp1 x) := by
  rfl

/-- `get_value` (a `None` weight counts as the failure it causes as soon as it is used) -/
theorem get_value_eq (self : Code2.Self) (a : Str) :
    (Code2.get_value self a).toOption.bind id = Model.V2.getValue self.metrics a := by
  unfold Code2.get_value Model.V2.getValue
  simp only [Py.toOption_bind, Aux.to_pure, Py.toOption_getitem, Py.getD, Model.V2.ND]
  cases lookup a Gen.V2.values with
  | none => rfl
  | some row =>
    simp only [Option.bind]
    cases lookup ((lookup a self.metrics).getD c!"ND") row <;> rfl

theorem get_value_description_eq (self : Code2.Self) (a : Str) :
    (Code2.get_value_description self a).toOption = Model.V2.getDescription self.metrics a := by
  unfold Code2.get_value_description Model.V2.getDescription
  simp only [Py.toOption_bind, Aux.to_pure, Py.toOption_getitem, Py.getD, Model.V2.ND]
  cases lookup a Gen.V2.valueNames with
  | none => rfl
  | some row =>
    simp only [Option.bind]
    cases lookup ((lookup a self.metrics).getD c!"ND") row <;> rfl

namespace Aux

theorem get_value_req {β : Type} (self : Code2.Self) (a : Str) (g : Rat → Option β) :
    (Code2.get_value self a).toOption.bind (fun t => t.bind g) = (Model.V2.getValue self.metrics a).bind g := by
  rw [← get_value_eq]
  cases (Code2.get_value self a).toOption <;> rfl

end Aux

theorem impact_equation_eq (self : Code2.Self) :
    (Code2.impact_equation self).toOption = Model.V2.impactEq self.metrics := by
  unfold Code2.impact_equation Model.V2.impactEq
  simp only [Py.toOption_bind, Aux.to_pure, Py.toOption_req, Aux.get_value_req]
  rfl

theorem adjusted_impact_equation_eq (self : Code2.Self) :
    (Code2.adjusted_impact_equation self).toOption = Model.V2.adjustedImpactEq self.metrics := by
  unfold Code2.adjusted_impact_equation Model.V2.adjustedImpactEq
  simp only [Py.toOption_bind, Aux.to_pure, Py.toOption_req, Aux.get_value_req]
  rfl

theorem base_score_equation_eq (self : Code2.Self) (adj : Bool) :
    (Code2.base_score_equation self adj).toOption = Model.V2.baseEq self.metrics adj := by
  unfold Code2.base_score_equation Model.V2.baseEq
  simp only [bind_pure, Py.toOption_bind, apply_ite Except.toOption, Py.toOption_ok, Py.toOption_req, impact_equation_eq,
    adjusted_impact_equation_eq, Aux.get_value_req, round_eq]
  -- the literals (`mkRat 3 5` against the model's `r 6 10` …) agree by evaluation
  cases adj <;> rfl

namespace Aux

theorem allND_eq (m : List (Str × Str)) (g : List Str) :
    (List.all g (fun a => decide ((Py.getD a m c!"ND") = c!"ND"))) = Model.V2.allND m g := rfl

theorem temporal_true (self : Code2.Self) (b : Rat) :
    (Code2.temporal_score_equation self true).toOption = Model.V2.temporalEq self.metrics b true := by
  unfold Code2.temporal_score_equation Model.V2.temporalEq
  simp only [if_true, Py.toOption_bind, Aux.to_pure, Py.toOption_ok, Py.toOption_req, base_score_equation_eq, Aux.get_value_req, round_eq]
  cases Model.V2.baseEq self.metrics true <;> rfl

theorem temporal_false (self : Code2.Self) (b : Rat) (h : self.base_score = some b) :
    (Code2.temporal_score_equation self false).toOption = Model.V2.temporalEq self.metrics b false := by
  unfold Code2.temporal_score_equation Model.V2.temporalEq
  simp only [Bool.false_eq_true, if_false, Py.toOption_bind, Aux.to_pure, Py.toOption_ok, Py.toOption_req, Aux.get_value_req, round_eq, h]
  rfl

def mTemporal (m : Model.MMap) (b : Rat) : Option (Option Rat) :=
  if Model.V2.allND m Gen.V2.temporal then pure none
  else do
    let t ← Model.V2.temporalEq m b false
    pure (some (pyMax 0 t))

def mEnv (m : Model.MMap) (b : Rat) : Option (Option Rat) :=
  if Model.V2.allND m Gen.V2.environmental then pure none
  else do
    let ta ← Model.V2.temporalEq m b true
    let cdp ← Model.V2.getValue m c!"CDP"
    let td ← Model.V2.getValue m c!"TD"
    pure (some (pyMax 0 (roundHalfUp1 ((ta + (10 - ta) * cdp) * td))))

theorem computeScores_eq (m : Model.MMap) :
    Model.V2.computeScores m =
      (Model.V2.baseScore m).bind fun b => (mTemporal m b).bind fun t => (mEnv m b).bind fun e => some (b, t, e) := by
  unfold Model.V2.computeScores mTemporal mEnv
  simp only [Option.bind_eq_bind, Option.pure_def, Py.ite_bind, Option.bind_assoc, Option.bind_some]

theorem compute_temporal_score_state (self : Code2.Self) (b : Rat) (h : self.base_score = some b) :
    (Code2.compute_temporal_score self).toOption =
      (mTemporal self.metrics b).map fun t => { self with temporal_score := t } := by
  unfold Code2.compute_temporal_score mTemporal
  simp only [allND_eq, Py.toOption_bind, Aux.to_pure, apply_ite Except.toOption, temporal_false self b h, Py.q0]
  cases Model.V2.allND self.metrics Gen.V2.temporal
  · simp only [Bool.false_eq_true, if_false]
    cases Model.V2.temporalEq self.metrics b false <;> rfl
  · rfl

theorem compute_environmental_score_state (self : Code2.Self) (b : Rat) :
    (Code2.compute_environmental_score self).toOption =
      (mEnv self.metrics b).map fun e => { self with environmental_score := e } := by
  unfold Code2.compute_environmental_score mEnv
  simp only [allND_eq, Py.toOption_bind, Aux.to_pure, Py.toOption_ok, apply_ite Except.toOption, Py.toOption_req,
    temporal_true self b, Py.q0, Py.q10, get_value_req, round_eq]
  cases Model.V2.allND self.metrics Gen.V2.environmental
  · simp only [Bool.false_eq_true, if_false]
    cases Model.V2.temporalEq self.metrics b true with
    | none => rfl
    | some ta =>
      cases Model.V2.getValue self.metrics c!"CDP" with
      | none => rfl
      | some cdp =>
        cases Model.V2.getValue self.metrics c!"TD" <;> rfl
  · rfl

end Aux

/-- what `__init__` computes after `check_mandatory()`: the translated source and the model produce the
    same three scores (or both raise), for EVERY metric dict and whatever the attributes held before -/
theorem init_tail_eq (self : Code2.Self) (vector : Str) :
    (Code2.init_tail self vector).toOption.map
        (fun s => (s.vector, s.metrics, s.base_score, s.temporal_score, s.environmental_score)) =
      (Model.V2.computeScores self.metrics).map
        (fun x => (self.vector, self.metrics, some x.1, x.2.1, x.2.2)) := by
  unfold Code2.init_tail Code2.compute_base_score
  rw [Aux.computeScores_eq]
  unfold Model.V2.baseScore
  simp only [Py.toOption_bind, Aux.to_pure, base_score_equation_eq, Py.q0]
  cases Model.V2.baseEq self.metrics false with
  | none => rfl
  | some b0 =>
    simp only [Option.bind_some, Option.pure_def, Option.bind_eq_bind]
    rw [Aux.compute_temporal_score_state _ (pyMax 0 b0) rfl]
    cases Aux.mTemporal self.metrics (pyMax 0 b0) with
    | none => rfl
    | some t =>
      simp only [Option.map_some, Option.bind_some]
      rw [Aux.compute_environmental_score_state _ (pyMax 0 b0)]
      cases Aux.mEnv self.metrics (pyMax 0 b0) <;> rfl

namespace Aux

structure Foreign {α : Type} (x : Py.M α) : Prop where
  out : ∀ e, x = .error e → e.toErr = .foreign

theorem fg_ok {α : Type} (a : α) : Foreign (Except.ok a : Py.M α) := ⟨Py.Foreign.ok a⟩

theorem foreign_get_value (self : Code2.Self) (a : Str) : Py.Foreign (Code2.get_value self a) := by
  unfold Code2.get_value
  foreign []

theorem foreign_base_score_equation (self : Code2.Self) (adj : Bool) : Py.Foreign (Code2.base_score_equation self adj) := by
  unfold Code2.base_score_equation Code2.adjusted_impact_equation Code2.impact_equation Code2.round_to_1_decimal
  foreign [foreign_get_value]

theorem foreign_temporal_score_equation (self : Code2.Self) (adj : Bool) : Py.Foreign (Code2.temporal_score_equation self adj) := by
  unfold Code2.temporal_score_equation Code2.round_to_1_decimal
  foreign [foreign_get_value, foreign_base_score_equation]

end Aux

theorem init_tail_error (self : Code2.Self) (vector : Str) (e : Py.Exc)
    (h : Code2.init_tail self vector = .error e) : e.toErr = .foreign := by
  have : Py.Foreign (Code2.init_tail self vector) := by
    unfold Code2.init_tail Code2.compute_base_score Code2.compute_temporal_score
      Code2.compute_environmental_score Code2.round_to_1_decimal
    foreign [Aux.foreign_get_value, Aux.foreign_base_score_equation, Aux.foreign_temporal_score_equation]
  exact this e h

namespace Aux

abbrev setM (s : Code2.Self) (m : Model.MMap) : Code2.Self := { s with metrics := m }

theorem parse_vector_view (self : Code2.Self) (h : self.metrics = []) :
    Py.view (Code2.parse_vector self) = (Model.parseNoPrefix Model.V2.tables self.vector).map (setM self) := by
  -- (`get` as the projection: with an untyped `fun x => x.metrics` unification wanders through `parseField`, forty times the cost)
  have hloop := Py.parseFields_view Code2.Self.metrics setM Model.V2.tables _ (fun _ _ => rfl) (fun _ _ => rfl)
    (fun _ => rfl) (Py.parseBody_view Code2.Self.metrics setM Gen.V2.abbrs Gen.V2.values Model.V2.tables rfl
      (fun k => lookup_map_keys k _) rfl) (splitOn '/' self.vector) self
  rw [h] at hloop
  show Py.view ((if self.vector = [] then Py.raise .malformed else pure ()) >>= fun () =>
    (if endsWithChar '/' self.vector = true then Py.raise .malformed else pure ()) >>= fun () =>
      List.foldlM (Py.parseBody Code2.Self.metrics setM Gen.V2.abbrs Gen.V2.values) self (splitOn '/' self.vector)) = _
  unfold Model.parseNoPrefix
  by_cases hv : self.vector = []
  · simp only [hv, if_true]
    rfl
  · by_cases he : endsWithChar '/' self.vector = true
    · simp only [hv, he, if_true, if_false]
      rfl
    · simp only [hv, he, if_false, Bool.false_eq_true, pure_bind, hloop]

end Aux

theorem parse_vector_eq (self : Code2.Self) (h : self.metrics = []) :
    ((Code2.parse_vector self).mapError Py.Exc.toErr).map (fun x => (x.vector, x.metrics)) =
      (Model.parseNoPrefix Model.V2.tables self.vector).map (fun m => (self.vector, m)) := by
  rw [← Py.view, Aux.parse_vector_view self h]
  cases Model.parseNoPrefix Model.V2.tables self.vector <;> rfl

theorem check_mandatory_eq (self : Code2.Self) :
    (Code2.check_mandatory self).mapError Py.Exc.toErr = Model.checkMandatory Model.V2.tables self.metrics :=
  Py.check_mandatory_view Model.V2.tables self.metrics

namespace Aux

/-- the model's constructor, step by step as `__init__` runs -/
theorem construct_bind (s : Str) :
    Model.V2.construct s =
      Model.parseNoPrefix Model.V2.tables s >>= fun m => Model.checkMandatory Model.V2.tables m >>= fun _ =>
        (Py.ofOption (Model.V2.computeScores m)).map fun x => ⟨s, m, x.1, x.2.1, x.2.2⟩ := by
  unfold Model.V2.construct Model.V2.parse
  cases Model.parseNoPrefix Model.V2.tables s with
  | error e => rfl
  | ok m =>
    simp only [Py.ok_bind]
    cases Model.checkMandatory Model.V2.tables m with
    | error e => rfl
    | ok u =>
      simp only [Py.ok_bind]
      cases Model.V2.computeScores m <;> rfl

end Aux

/-- the whole constructor, for every string: `CVSS2(s)` as translated from the source text and the
    model's `construct` fail with the same exception class or succeed with the same vector, metric
    dict and the same three scores -/
theorem construct_eq (s : Str) :
    ((Code2.construct s).mapError Py.Exc.toErr).map
        (fun x => (x.vector, x.metrics, x.base_score, x.temporal_score, x.environmental_score)) =
      (Model.V2.construct s).map (fun o => (o.vector, o.metrics, some o.base, o.temporal, o.env)) := by
  have hinit : Code2.construct s =
      (Code2.parse_vector (Code2.initSelf s []) >>= fun self =>
        Code2.check_mandatory self >>= fun _ => Code2.init_tail self s) := rfl
  rw [Py.sim_iff_map_eq, hinit, Aux.construct_bind, Py.mapError_bind]
  refine Py.Sim.bind (Py.sim_iff_map_eq.1 (parse_vector_eq (Code2.initSelf s []) rfl)) ?_
  intro x m hxm
  obtain ⟨hv, hm⟩ := Prod.mk.inj hxm
  change x.vector = s at hv
  rw [Py.mapError_bind, check_mandatory_eq, hm]
  refine Py.Sim.bind Py.Sim.of_eq ?_
  intro _ _ _
  have h := Py.view_map_eq_iff.2 ⟨init_tail_eq x s, init_tail_error x s⟩
  rw [hv, hm] at h
  rw [← Py.sim_iff_map_eq, ← Py.view, h]
  cases Model.V2.computeScores m <;> rfl

namespace Aux

theorem sev_step (acc : List Str) (score : Option Rat) :
    (do
      let severities := acc
      let severities ← (if (score = none) then (do
          let severities : List Str := severities ++ [c!"None"]
          pure severities) else (do
          let v1 ← Py.req score
          let severities ← (if (v1 ≤ (mkRat (39) 10)) then (do
              let severities : List Str := severities ++ [c!"Low"]
              pure severities) else (do
              let v2 ← Py.req score
              let severities ← (if (v2 ≤ (mkRat (69) 10)) then (do
                  let severities : List Str := severities ++ [c!"Medium"]
                  pure severities) else (do
                  let severities : List Str := severities ++ [c!"High"]
                  pure severities))
              pure severities))
          pure severities))
      pure severities : Py.M (List Str)) = .ok (acc ++ [Model.V2.sevOf score]) := by
  cases score with
  | none => simp [Model.V2.sevOf, pure, Except.pure]
  | some s =>
    simp only [Model.V2.sevOf, Model.V2.r, Py.req]
    by_cases h1 : s ≤ mkRat 39 10
    · simp [h1, pure, Except.pure, bind, Except.bind]
    · by_cases h2 : s ≤ mkRat 69 10
      · simp [h1, h2, pure, Except.pure, bind, Except.bind]
      · simp [h1, h2, pure, Except.pure, bind, Except.bind]

end Aux

theorem clean_vector_eq (self : Code2.Self) :
    Code2.clean_vector self = .ok (Model.V2.cleanOf self.metrics) := by
  show (List.foldlM (Py.cleanBody self.metrics c!"ND") [] (keys Gen.V2.abbrs) >>=
    fun v => pure (join '/' v)) = _
  rw [Py.clean_loop]
  rfl

theorem severities_eq (self : Code2.Self) :
    Code2.severities self =
      .ok [Model.V2.sevOf self.base_score, Model.V2.sevOf self.temporal_score,
           Model.V2.sevOf self.environmental_score] := by
  unfold Code2.severities
  simp only [List.foldlM_cons, List.foldlM_nil, Aux.sev_step]
  rfl

theorem temporal_vector_eq (self : Code2.Self) (o : Model.V2.Obj) (h : o.metrics = self.metrics) :
    Code2.temporal_vector self = .ok o.temporalVector := by
  -- `(k ++ ":") ++ v` against the model's `k ++ ':' :: v`
  rw [Code2.temporal_vector, Model.V2.Obj.temporalVector, h]
  simp only [List.append_assoc]
  rfl

theorem environmental_vector_eq (self : Code2.Self) (o : Model.V2.Obj) (h : o.metrics = self.metrics) :
    Code2.environmental_vector self = .ok o.environmentalVector := by
  rw [Code2.environmental_vector, Model.V2.Obj.environmentalVector, h]
  simp only [List.append_assoc]
  rfl

def jOf : Model.JVal → Py.J
  | .str s => .str s
  | .num x => .num x

namespace Aux

abbrev asJsonBody (self : Code2.Self) : List (Str × Py.J) → Str → Py.M (List (Str × Py.J)) :=
  Py.jsonBody Gen.V2.jsonKeys (Code2.get_value_description self) fun text =>
    pure (replaceChar ' ' '_' (replaceChar '-' '_' (Py.upper text)))

theorem asJsonBody_fold (self : Code2.Self) (l : List Str) (d : Model.JObj) :
    (List.foldlM (asJsonBody self) (Py.jmap jOf d) l).toOption =
      (Model.addMetrics Gen.V2.jsonKeys (Model.V2.getDescription self.metrics) Model.us2 d l).map
        (Py.jmap jOf) :=
  Py.jsonBody_fold jOf (fun _ => rfl) (get_value_description_eq self) (fun _ => rfl) l d

theorem score_eq (t : Option Rat) :
    ((if (t ≠ none ∧ t ≠ some 0) then (do
          let v8 ← Py.req t
          pure v8) else (do
          pure (mkRat (0) 1))) : Py.M Rat) =
      .ok (if Model.truthy t = true then t.getD 0 else 0) := by
  cases t with
  | none => simp [Model.truthy, pure, Except.pure]
  | some x =>
    by_cases hx : x = 0
    · simp [Model.truthy, hx, pure, Except.pure]
    · simp [Model.truthy, hx, Py.req]

theorem as_json_unfold (self : Code2.Self) (sort minimal : Bool) :
    Code2.as_json self sort minimal =
      (Py.req self.base_score >>= fun v1 =>
        List.foldlM (asJsonBody self)
          ([(c!"version", (Py.J.str c!"2.0")), (c!"vectorString", (Py.J.str self.vector)),
            (c!"baseScore", (Py.J.num v1))] : List (Str × Py.J)) Gen.V2.mandatory >>= fun data =>
        (if ((¬ (minimal = true)) ∨ (¬ (self.temporal_score = none))) then
          (List.foldlM (asJsonBody self) data Gen.V2.temporal >>= fun data =>
            (if (self.temporal_score ≠ none ∧ self.temporal_score ≠ some 0) then (do
              let v8 ← Py.req self.temporal_score
              pure v8) else (do
              pure (mkRat (0) 1))) >>= fun t9 =>
            pure (Py.setitem c!"temporalScore" (Py.J.num t9) data))
         else pure data) >>= fun data =>
        (if ((¬ (minimal = true)) ∨ (¬ (self.environmental_score = none))) then
          (List.foldlM (asJsonBody self) data Gen.V2.environmental >>= fun data =>
            (if (self.environmental_score ≠ none ∧ self.environmental_score ≠ some 0) then (do
              let v13 ← Py.req self.environmental_score
              pure v13) else (do
              pure (mkRat (0) 1))) >>= fun t14 =>
            pure (Py.setitem c!"environmentalScore" (Py.J.num t14) data))
         else pure data) >>= fun data =>
        (if (sort = true) then pure (Py.sortedItems data) else pure data)) := rfl

def mOpt (m : List (Str × Str)) (minimal : Bool) (t : Option Rat) (g : List Str) (key : Str)
    (d : Model.JObj) : Option Model.JObj :=
  if (!minimal || t.isSome) = true then
    (Model.addMetrics Gen.V2.jsonKeys (Model.V2.getDescription m) Model.us2 d g).bind fun d' =>
      some (insert key (.num (if Model.truthy t = true then t.getD 0 else 0)) d')
  else some d

theorem asJsonOpt_eq (self : Code2.Self) (minimal : Bool) (t : Option Rat) (g : List Str) (key : Str)
    (d : Model.JObj) :
    ((if ((¬ (minimal = true)) ∨ (¬ (t = none))) then
          (List.foldlM (asJsonBody self) (Py.jmap jOf d) g >>= fun data =>
            (if (t ≠ none ∧ t ≠ some 0) then (do
              let v8 ← Py.req t
              pure v8) else (do
              pure (mkRat (0) 1))) >>= fun t9 =>
            pure (Py.setitem key (Py.J.num t9) data))
         else pure (Py.jmap jOf d)) : Py.M (List (Str × Py.J))).toOption =
      (mOpt self.metrics minimal t g key d).map (Py.jmap jOf) := by
  unfold mOpt
  have hc : ((¬ (minimal = true)) ∨ (¬ (t = none))) ↔ (!minimal || t.isSome) = true := by
    cases minimal <;> cases t <;> simp
  by_cases h : (!minimal || t.isSome) = true
  · rw [if_pos (hc.2 h), if_pos h, Py.toOption_bind, asJsonBody_fold, score_eq]
    cases Model.addMetrics Gen.V2.jsonKeys (Model.V2.getDescription self.metrics) Model.us2 d g with
    | none => rfl
    | some d' =>
      simp only [Option.map_some, Option.bind_some, Py.setitem]
      rw [← Py.insert_jmap]
      rfl
  · rw [if_neg (fun hh => h (hc.1 hh)), if_neg h]
    rfl

theorem asJson2_alt (o : Model.V2.Obj) (sort minimal : Bool) :
    Model.asJson2 o sort minimal =
      (Model.addMetrics Gen.V2.jsonKeys (Model.V2.getDescription o.metrics) Model.us2
        [(c!"version", .str c!"2.0"), (c!"vectorString", .str o.vector), (c!"baseScore", .num o.base)]
        Gen.V2.mandatory).bind fun d1 =>
      (mOpt o.metrics minimal o.temporal Gen.V2.temporal c!"temporalScore" d1).bind fun d2 =>
      (mOpt o.metrics minimal o.env Gen.V2.environmental c!"environmentalScore" d2).bind fun d3 =>
      some (if sort = true then Model.sortObj d3 else d3) := by
  unfold Model.asJson2 mOpt
  simp only [Option.bind_eq_bind, Option.pure_def, Py.ite_bind, Option.bind_assoc, Option.bind_some]

end Aux

/-- `as_json(sort, minimal)`, all four option sets: same keys, same values, same order (or both raise) -/
theorem as_json_eq (self : Code2.Self) (o : Model.V2.Obj) (sort minimal : Bool)
    (hv : o.vector = self.vector) (hm : o.metrics = self.metrics) (hb : self.base_score = some o.base)
    (ht : self.temporal_score = o.temporal) (he : self.environmental_score = o.env) :
    (Code2.as_json self sort minimal).toOption =
      (Model.asJson2 o sort minimal).map (List.map (fun kv => (kv.1, jOf kv.2))) := by
  rw [Aux.as_json_unfold, hb, Aux.asJson2_alt, ← ht, ← he, hv, hm]
  show (Py.req (some o.base) >>= _).toOption = Option.map (Py.jmap jOf) _
  rw [Py.req, Py.ok_bind]
  refine Py.toOption_bind_map (Aux.asJsonBody_fold self _
    [(c!"version", .str c!"2.0"), (c!"vectorString", .str self.vector), (c!"baseScore", .num o.base)]) fun d1 => ?_
  refine Py.toOption_bind_map (Aux.asJsonOpt_eq self minimal _ _ _ d1) fun d2 => ?_
  refine Py.toOption_bind_map (Aux.asJsonOpt_eq self minimal _ _ _ d2) fun d3 => ?_
  cases sort
  · rfl
  · simp only [if_true, Aux.to_pure, Py.sortedItems_jmap]
    rfl

/-! `scores()`: the translation keeps `float(score)` as the rational `score`; `None` stays `None`. -/

theorem scores_eq (self : Code2.Self) :
    Code2.scores self = .ok [self.base_score, self.temporal_score, self.environmental_score] := by
  unfold Code2.scores
  rw [mapM_pure_of_mem (g := id) fun a _ => by cases a <;> rfl]
  rfl

theorem scores_eq_model (self : Code2.Self) (o : Model.V2.Obj) (hb : self.base_score = some o.base)
    (ht : self.temporal_score = o.temporal) (he : self.environmental_score = o.env) :
    Code2.scores self = .ok o.scores := by
  rw [scores_eq, hb, ht, he]; rfl

/-! `__eq__` / `__hash__` (here and in the other two classes): the other operand of `==` is modelled as an object of
    the same class; for any other class the source returns False. -/

theorem eq_eq (self o : Code2.Self) (a b : Str) (ha : Code2.clean_vector self = .ok a) (hb : Code2.clean_vector o = .ok b) :
    Code2.__eq__ self o = .ok (decide (a = b)) := by
  rw [Code2.__eq__, ha, hb]
  rfl

theorem hash_eq (self : Code2.Self) (a : Str) (ha : Code2.clean_vector self = .ok a) :
    Code2.__hash__ self = .ok a := by
  rw [Code2.__hash__, ha]
  rfl

theorem eq_hash (self o : Code2.Self) (a b : Str) (ha : Code2.clean_vector self = .ok a) (hb : Code2.clean_vector o = .ok b)
    (h : Code2.__eq__ self o = .ok true) : Code2.__hash__ self = Code2.__hash__ o := by
  rw [eq_eq self o a b ha hb] at h
  have : a = b := by simpa using h
  rw [hash_eq self a ha, hash_eq o b hb, this]

section
open Cvss.Model

/-! Red Hat notation (here and in the other two classes): `float(text)` and `float == float` are the BUILTIN
    semantics of `Model/Float.lean`, which the translation refers to through `Py.float` / `Py.scoreEq`. -/

/-- the model's `fromRh` for this version, before it is wrapped into `AnyObj` (written out; `Aux.rhSpec_eq` is the
    bridge to the shared `Py.rhSpecOf`) -/
def rhSpec (text : Str) : Except Err V2.Obj :=
  match splitFirst '/' text with
  | none => .error .rhMalformed
  | some (score, baseVector) =>
    match Float.parseFloat score with
    | none => .error .rhMalformed
    | some fv =>
      match V2.construct baseVector with
      | .error e => .error e
      | .ok o => if Float.eqScore o.base fv then .ok o else .error .rhMismatch

namespace Aux

/-- both sides are `match` terms, which unfold only once the scrutinee is a constructor: hence case by case -/
theorem rhSpec_eq (text : Str) : rhSpec text = Py.rhSpecOf V2.construct V2.Obj.base text := by
  unfold rhSpec Py.rhSpecOf
  cases splitFirst '/' text with
  | none => rfl
  | some p =>
    obtain ⟨score, bv⟩ := p
    dsimp only
    cases Float.parseFloat score with
    | none => rfl
    | some fv =>
      dsimp only
      cases V2.construct bv <;> rfl

end Aux

theorem rhSpec_eq_model (text : Str) : (rhSpec text).map AnyObj.o2 = fromRh .v2 text := by
  rw [Aux.rhSpec_eq]
  exact Py.rhSpecOf_map .v2 V2.construct V2.Obj.base AnyObj.o2 (fun _ => rfl) (fun _ => rfl) text

/-- `CVSS2.from_rh_vector(text)` (the same text in the three classes), for every string: same exception class
    (RH-malformed, the constructor's classes, mismatch) or the same object -/
theorem from_rh_vector_eq (text : Str) :
    ((Code2.from_rh_vector text).mapError Py.Exc.toErr).map
        (fun x => (x.vector, x.metrics, x.base_score, x.temporal_score, x.environmental_score)) =
      (rhSpec text).map
        (fun o => (o.vector, o.metrics, some o.base, o.temporal, o.env)) := by
  rw [Py.sim_iff_map_eq, Aux.rhSpec_eq]
  refine Py.fromRh_sim (construct := Code2.construct) (scores := Code2.scores) (w := id) (base := V2.Obj.base)
    (fun b => Py.sim_iff_map_eq.1 (construct_eq b)) ?_ text
  · intro x o h
    simp only [Prod.mk.injEq] at h
    exact ⟨_, _, scores_eq x, h.2.2.1⟩

theorem rh_vector_eq (self : Code2.Self) (o : V2.Obj) (hm : self.metrics = o.metrics) (hb : self.base_score = some o.base)
    (ht : self.temporal_score = o.temporal) (he : self.environmental_score = o.env) :
    Code2.rh_vector self = .ok (AnyObj.rh (.o2 o)) := by
  -- (`ht`, `he` are not needed: the notation shows the base score only)
  have _ := ht
  have _ := he
  rw [Code2.rh_vector, scores_eq, clean_vector_eq, hb, hm]
  exact congrArg Except.ok (Py.strScore_slash _ _)

end

end Cvss.Props.CodeTie2
