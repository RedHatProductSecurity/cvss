/-
  C13 — text extraction is total, sound, complete for delimited vectors, duplicate-free.
  The loop over the matches folds `addDedup` over the objects built from them (`collect_eq_some`); what the
  result contains, and in which order, is read off that fold.
-/
import Cvss.Model.Extract
import Cvss.Spec.Grammar
import Cvss.Lemmas.Parse
import Cvss.Lemmas.Extract
import Cvss.Props.C04
namespace Cvss.Props.C13
open Cvss Cvss.Model Cvss.Spec Cvss.Model.Extract

theorem findAll_infix (isDigit : Char → Bool) (fuel : Nat) (text : Str) :
    ∀ m ∈ findAll isDigit fuel text, m <:+: text := by
  induction fuel generalizing text with
  | zero => intro m hm; cases hm
  | succ fuel ih =>
    cases text with
    | nil => intro m hm; cases hm
    | cons c cs =>
      intro m hm
      rw [findAll_cons] at hm
      split at hm
      · rename_i m0 rest hmh
        obtain ⟨happ, -⟩ := matchHere_some hmh
        rw [← happ]
        rcases List.mem_cons.1 hm with rfl | hm
        · exact List.infix_append' [] m rest
        · exact (ih rest m hm).trans (List.suffix_append m0 rest).isInfix
      · exact (ih cs m hm).trans (List.suffix_cons c cs).isInfix

/-- what the loop builds for one candidate -/
def candidate (m : Str) : Except Err AnyObj :=
  if startsWith c!"CVSS:3." m then construct .v3 m else construct .v2 m

def built (ms : List Str) : List AnyObj :=
  ms.filterMap fun m => match candidate m with | .ok o => some o | .error _ => none

theorem built_cons (m : Str) (ms : List Str) :
    built (m :: ms) = (match candidate m with | .ok o => [o] | .error _ => []) ++ built ms := by
  unfold built
  rw [List.filterMap_cons]
  cases candidate m <;> rfl

theorem mem_built {ms : List Str} {o : AnyObj} : o ∈ built ms ↔ ∃ m ∈ ms, candidate m = .ok o := by
  unfold built
  rw [List.mem_filterMap]
  refine exists_congr fun m => and_congr_right fun _ => ?_
  cases candidate m <;> simp

theorem candidate_ok {m : Str} {o : AnyObj} (h : candidate m = .ok o) :
    construct .v2 m = .ok o ∨ construct .v3 m = .ok o := by
  unfold candidate at h
  split at h
  · exact Or.inr h
  · exact Or.inl h

theorem collect_cons (acc : List AnyObj) (m : Str) (rest : List Str) :
    collect acc (m :: rest) =
      match candidate m with
      | .ok o => collect (addDedup acc o) rest
      | .error .foreign => none
      | .error _ => collect acc rest := by
  rw [collect]
  rfl

theorem collect_eq_some (ms : List Str) : ∀ (acc os : List AnyObj), collect acc ms = some os ↔
    (∀ m ∈ ms, candidate m ≠ .error .foreign) ∧ os = (built ms).foldl addDedup acc := by
  induction ms with
  | nil =>
    intro acc os
    simp only [collect, Option.some.injEq, List.not_mem_nil, false_implies, implies_true, true_and]
    exact eq_comm
  | cons m ms ih =>
    intro acc os
    rw [collect_cons, built_cons, List.forall_mem_cons]
    cases hc : candidate m with
    | ok o =>
      simp only [ih, ne_eq, reduceCtorEq, not_false_eq_true, true_and]
      rfl
    | error e =>
      cases e with
      | foreign => simp only [reduceCtorEq, ne_eq, not_true_eq_false, false_and]
      | _ =>
        simp only [ih, ne_eq, Except.error.injEq, reduceCtorEq, not_false_eq_true, true_and]
        rfl

/-! The ORDER of the result: the model has no set and no hash; that `parse_cvss_from_text` returns this list is
    C13's own comparison with the code; that it does so under several hash seeds is what the C19 check samples. -/

/-- the result is exactly the left-to-right de-duplication (first occurrence kept, by the objects' own `==`) of the
    objects built from the candidates in their order of appearance -/
theorem parseText_eq_dedup (isDigit : Char → Bool) (text : Str) (os : List AnyObj)
    (h : parseText isDigit text = some os) :
    os = (built (findAll isDigit text.length text)).foldl addDedup [] :=
  ((collect_eq_some _ [] os).1 h).2

/-- the result lists, in their order of appearance in the text, (a sub-list of) the objects built from the
    candidate substrings; equal objects found later are dropped (`parseText_nodup`), the first one is kept -/
theorem parseText_order (isDigit : Char → Bool) (text : Str) (os : List AnyObj)
    (h : parseText isDigit text = some os) :
    os.Sublist (built (findAll isDigit text.length text)) := by
  obtain ⟨rest, hr, hs⟩ := foldl_addDedup_sublist (built (findAll isDigit text.length text)) []
  rw [parseText_eq_dedup isDigit text os h, hr]
  exact hs

/-- sound: every returned object is the result of constructing, with the CVSS2 or CVSS3 class, a
    contiguous substring of the text (so that substring is a valid vector of that object's version) -/
theorem parseText_sound (isDigit : Char → Bool) (text : Str) (os : List AnyObj)
    (h : parseText isDigit text = some os) :
    ∀ o ∈ os, ∃ sub, sub <:+: text ∧ (construct .v2 sub = .ok o ∨ construct .v3 sub = .ok o) := by
  intro o ho
  obtain ⟨m, hm, hc⟩ := mem_built.1 ((parseText_order isDigit text os h).subset ho)
  exact ⟨m, findAll_infix isDigit _ text m hm, candidate_ok hc⟩

theorem parseText_nodup (isDigit : Char → Bool) (text : Str) (os : List AnyObj)
    (h : parseText isDigit text = some os) : os.Pairwise (fun a b => a.eq b = false) :=
  parseText_eq_dedup isDigit text os h ▸ foldl_addDedup_pairwise _ [] .nil

/-- decided of every legal field `f` of metric `k`: no `/` (a vector's first two characters cannot end
    `CVSS:3.<digit>/`), and two characters more than `k` (`fieldRoom`) -/
def GoodField (f k : Str) : Prop := f.all (fun c => inClass c && c != '/') = true ∧ k.length + 2 ≤ f.length

instance (f k : Str) : Decidable (GoodField f k) := inferInstanceAs (Decidable (_ ∧ _))

theorem fields_good : ∀ p ∈ Grammar.fieldStrings Grammar.g2 ++ Grammar.fieldStrings Grammar.g3, GoodField p.1 p.2 := by
  decide +kernel

theorem GoodField.cls {f k : Str} (h : GoodField f k) : f.all inClass = true :=
  List.all_eq_true.2 fun c hc => (Bool.and_eq_true _ _ ▸ List.all_eq_true.1 h.1 c hc).1

theorem GoodField.head {f k : Str} (h : GoodField f k) : ∃ a b t, f = a :: b :: t ∧ a ≠ '/' ∧ b ≠ '/' := by
  obtain ⟨h1, h2⟩ := h
  rcases f with _ | ⟨a, _ | ⟨b, t⟩⟩
  · simp at h2
  · simp at h2
  · simp only [List.all_cons, Bool.and_eq_true, bne_iff_ne, ne_eq] at h1
    exact ⟨a, b, t, rfl, h1.1.2, h1.2.1.2⟩

theorem fields_in_class :
    ((Grammar.fieldStrings Grammar.g2 ++ Grammar.fieldStrings Grammar.g3).all fun (f, _) => f.all Extract.inClass) = true :=
  List.all_eq_true.2 fun p hp => (fields_good p hp).cls

/-- the field of a metric together with one separator has at least this many characters -/
def fieldRoom (k : Str) : Nat := k.length + 3

theorem body_facts (m : MMap) (hne : m ≠ []) (hg : ∀ kv ∈ m, GoodField (fieldOf kv) kv.1) :
    (join '/' (m.map fieldOf)).all inClass = true ∧
    ((keys m).map fieldRoom).sum ≤ (join '/' (m.map fieldOf)).length + 1 ∧
    ∃ a b t, join '/' (m.map fieldOf) = a :: b :: t ∧ a ≠ '/' ∧ b ≠ '/' := by
  induction m with
  | nil => exact absurd rfl hne
  | cons kv rest ih =>
    have hkv := hg kv (by simp)
    obtain ⟨a, b, t, hf, ha, hb⟩ := hkv.head
    cases rest with
    | nil =>
      simp only [List.map_cons, List.map_nil, join_singleton, keys, List.sum_cons, List.sum_nil]
      refine ⟨hkv.cls, ?_, a, b, t, hf, ha, hb⟩
      have := hkv.2
      unfold fieldRoom; omega
    | cons kv' rest' =>
      obtain ⟨ih1, ih2, -⟩ := ih (by simp) (fun x hx => hg x (List.mem_cons_of_mem _ hx))
      simp only [List.map_cons, keys, List.sum_cons] at ih1 ih2 ⊢
      rw [join_cons_cons]
      refine ⟨?_, ?_, a, b, t ++ '/' :: join '/' (fieldOf kv' :: List.map fieldOf rest'), ?_, ha, hb⟩
      · rw [List.all_append, List.all_cons, hkv.cls, ih1]
        decide
      · have := hkv.2
        simp only [List.length_append, List.length_cons]
        unfold fieldRoom at ih2 ⊢; omega
      · rw [hf]; rfl

theorem sum_le_of_nodup_subset (w : Str → Nat) :
    ∀ (l₁ l₂ : List Str), l₁.Nodup → (∀ x ∈ l₁, x ∈ l₂) → (l₁.map w).sum ≤ (l₂.map w).sum := by
  intro l₁
  induction l₁ with
  | nil => intro l₂ _ _; simp
  | cons x l ih =>
    intro l₂ hn hsub
    have hx : x ∈ l₂ := hsub x (by simp)
    have hperm := List.perm_cons_erase hx
    have hsum : (l₂.map w).sum = w x + ((l₂.erase x).map w).sum := by
      rw [(hperm.map w).sum_nat]; simp
    rw [List.nodup_cons] at hn
    have := ih (l₂.erase x) hn.2 (fun y hy =>
      (List.mem_erase_of_ne (by intro e; rw [e] at hy; exact hn.1 hy)).2
        (hsub y (List.mem_cons_of_mem _ hy)))
    rw [hsum, List.map_cons, List.sum_cons]
    omega

theorem body_shape {T : Tables} {g : Grammar.G} (hp : C04.Pinned T g)
    (hg : ∀ p ∈ Grammar.fieldStrings g, GoodField p.1 p.2) {m : MMap} (acc : Accepted T m)
    (hnd : T.mandatory.Nodup) :
    (join '/' (m.map fieldOf)).all inClass = true ∧
    (T.mandatory.map fieldRoom).sum ≤ (join '/' (m.map fieldOf)).length + 1 ∧
    ∃ a b t, join '/' (m.map fieldOf) = a :: b :: t ∧ a ≠ '/' ∧ b ≠ '/' := by
  obtain ⟨h1, h2, h3⟩ := body_facts m acc.ne fun kv hkv =>
    hg _ ((hp.isField_iff _ _).2 ⟨kv.2, rfl, acc.legal kv hkv⟩).mem_fieldStrings
  exact ⟨h1, Nat.le_trans (sum_le_of_nodup_subset fieldRoom _ _ hnd acc.mandatory) h2, h3⟩

theorem v2_shape {v : Str} {o : AnyObj} (hc : construct .v2 v = .ok o) :
    v.all inClass = true ∧ 26 ≤ v.length ∧ ∃ a b t, v = a :: b :: t ∧ a ≠ '/' ∧ b ≠ '/' := by
  cases hp : V2.parse v with
  | error e => simp only [construct, V2.construct, hp, Except.map, reduceCtorEq] at hc
  | ok m =>
    obtain ⟨rfl, acc⟩ := (C04.v2_parse_iff v m).1 hp
    obtain ⟨h1, h2, h3⟩ := body_shape C04.pinned2
      (fun p hp => fields_good p (List.mem_append_left _ hp)) acc (by decide)
    -- AV, AC, Au take 5 each and C, I, A 4 each; one separator less is 26, exactly the pattern's minimum
    have e : (V2.tables.mandatory.map fieldRoom).sum = 27 := by decide
    exact ⟨h1, by omega, h3⟩

theorem v3_shape {v : Str} {o : AnyObj} (hc : construct .v3 v = .ok o) :
    ∃ x body, (x = '0' ∨ x = '1') ∧ v = 'C' :: 'V' :: 'S' :: 'S' :: ':' :: '3' :: '.' :: x :: '/' :: body ∧
      body.all inClass = true ∧ 26 ≤ body.length := by
  cases hp : V3.parse v with
  | error e => simp only [construct, V3.construct, hp, Except.map, reduceCtorEq] at hc
  | ok r =>
    obtain ⟨hi, rfl, acc⟩ := (C04.v3_parse_iff v r.1 r.2).1 hp
    obtain ⟨h1, h2, -⟩ := body_shape C04.pinned3
      (fun p hp => fields_good p (List.mem_append_right _ hp)) acc (by decide)
    -- AV, AC, PR, UI take 5 each and S, C, I, A 4 each
    have e : (V3.tables.mandatory.map fieldRoom).sum = 36 := by decide
    have hlen : 26 ≤ (join '/' (r.2.map fieldOf)).length := by omega
    rcases hi with hi | hi
    · exact ⟨'0', _, Or.inl rfl, by rw [hi]; rfl, h1, hlen⟩
    · exact ⟨'1', _, Or.inr rfl, by rw [hi]; rfl, h1, hlen⟩

/-- a character outside the class `[A-Za-z:/]`, or the text boundary -/
def DelimitedLeft (pre : Str) : Prop := ∀ c, pre.getLast? = some c → inClass c = false
def DelimitedRight (post : Str) : Prop := ∀ c, post.head? = some c → inClass c = false

/-- `h0`, `h0'`, `h1`: the string does not begin like the end of `CVSS:3.<digit>/` -/
theorem parseText_complete (isDigit : Char → Bool) (pre post : Str) (r0 r1 : Char) (v' : Str) (o : AnyObj)
    (hl : DelimitedLeft pre) (h0 : r0 ≠ '.') (h0' : r0 ≠ '/') (h1 : r1 ≠ '/')
    (hm : matchHere isDigit (r0 :: r1 :: v' ++ post) = some (r0 :: r1 :: v', post))
    (hc : candidate (r0 :: r1 :: v') = .ok o)
    (os : List AnyObj) (h : parseText isDigit (pre ++ (r0 :: r1 :: v') ++ post) = some os) :
    ∃ o' ∈ os, o'.eq o = true := by
  rw [parseText_eq_dedup _ _ _ h]
  have hv := mem_findAll_of_delimited isDigit pre post r0 r1 v' hl h0 h0' h1 hm _ (Nat.le_refl _)
  exact foldl_addDedup_complete (mem_built.2 ⟨_, hv, hc⟩) []

/-- complete for delimited vectors: if a string `v` that the CVSS2 class accepts occurs in the text
    delimited on both sides by characters outside the class (or the text boundary), an object equal to
    `CVSS2(v)` is returned, whatever `\d` matches. -/
theorem parseText_complete_v2 (isDigit : Char → Bool) (pre v post : Str) (o : AnyObj)
    (hc : construct .v2 v = .ok o) (hl : DelimitedLeft pre) (hr : DelimitedRight post)
    (os : List AnyObj) (h : parseText isDigit (pre ++ v ++ post) = some os) :
    ∃ o' ∈ os, o'.eq o = true := by
  obtain ⟨hall, hlen, a, b, t, rfl, ha', hb⟩ := v2_shape hc
  have ha : a ≠ '.' := by rintro rfl; cases hall
  refine parseText_complete isDigit pre post a b t o hl ha ha' hb
    (matchHere_plain isDigit _ post hall hlen hr) ?_ os h
  unfold candidate
  rw [if_neg, hc]
  -- a string of class characters does not start with `CVSS:3.`
  intro hs
  obtain ⟨r, hr'⟩ := (startsWith_iff _ _).1 hs
  have := List.all_eq_true.1 hall '3' (by rw [hr']; simp)
  simp [inClass] at this

/-- likewise for a string the CVSS3 class accepts (`\d` must match at least `0` and `1`) -/
theorem parseText_complete_v3 (isDigit : Char → Bool) (hd : isDigit '0' = true ∧ isDigit '1' = true)
    (pre v post : Str) (o : AnyObj)
    (hc : construct .v3 v = .ok o) (hl : DelimitedLeft pre) (hr : DelimitedRight post)
    (os : List AnyObj) (h : parseText isDigit (pre ++ v ++ post) = some os) :
    ∃ o' ∈ os, o'.eq o = true := by
  obtain ⟨x, body, hx, rfl, hall, hlen⟩ := v3_shape hc
  have hdx : isDigit x = true := by
    rcases hx with rfl | rfl
    · exact hd.1
    · exact hd.2
  refine parseText_complete isDigit pre post 'C' 'V' _ o hl (by decide) (by decide) (by decide)
    (matchHere_prefixed isDigit x body post hdx hall hlen hr) ?_ os h
  unfold candidate
  rw [if_pos, hc]
  exact (startsWith_iff _ _).2 ⟨_, rfl⟩

/-- non-vacuity: a delimited v3 vector in a sentence is found -/
example :
    (parseText (fun c => c.isDigit) c!"score (CVSS:3.1/AV:N/AC:L/PR:N/UI:N/S:U/C:H/I:H/A:H), see advisory").map
      (fun os => os.map (fun o => o.clean)) = some [c!"CVSS:3.1/AV:N/AC:L/PR:N/UI:N/S:U/C:H/I:H/A:H"] := by
  decide +kernel

end Cvss.Props.C13
