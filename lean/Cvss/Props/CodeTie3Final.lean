/-
  What the text of cvss3.py itself does: the source tie composed with `C01.v3_build_eq_spec` (model = FIRST
  equations) and the grammar theorems of C04.
-/
import Cvss.Props.CodeTie3
import Cvss.Props.C01
import Cvss.Props.C04Final
namespace Cvss.Props.CodeTie3
open Cvss Cvss.Gen Cvss.Model Cvss.Spec.Grammar

/-- cvss3.py, `__init__` after `check_mandatory()`, as translated from the source text: for every valid
    metric dict and minor version it raises nothing and leaves exactly the FIRST specification's base,
    temporal and environmental scores (of that minor version) on the object, with the input dict kept
    as `original_metrics` -/
theorem source_v3_scores_eq_spec (self : Code3.Self) (vector : Str) (minor : Nat)
    (hm : self.minor_version = some (minor : Int)) (hv : C01.ValidMap self.metrics) :
    ∃ x, Code3.init_tail self vector = .ok x ∧
      x.original_metrics = some self.metrics ∧
      x.base_score = some (Spec.V3.baseScore (assignment V3.X self.metrics)) ∧
      x.temporal_score = some (Spec.V3.temporalScore (assignment V3.X self.metrics)) ∧
      x.environmental_score = some (Spec.V3.environmentalScore minor (assignment V3.X self.metrics)) := by
  obtain ⟨o, ho, _, _, horig, hb, ht, he, _⟩ := C01.v3_build_eq_spec vector minor self.metrics hv
  have h := init_tail_eq self vector vector minor hm
  rw [ho] at h
  cases hx : Code3.init_tail self vector with
  | error e => rw [hx] at h; simp [Except.toOption] at h
  | ok x =>
    rw [hx] at h
    simp only [Except.toOption, Option.map_some, Option.some.injEq, Prod.mk.injEq] at h
    obtain ⟨h1, _, h3, h4, h5⟩ := h
    exact ⟨x, rfl, by rw [h1, horig], by rw [h3, hb], by rw [h4, ht], by rw [h5, he]⟩

/-- `CVSS3(s)` as translated from the source text succeeds exactly on the strings of the v3 grammar
    (prefix CVSS:3.0/ or CVSS:3.1/) -/
theorem source_v3_construct_accepts_iff (s : Str) : (∃ x, Code3.construct s = .ok x) ↔ Accepts g3 s :=
  (Py.accepts_iff (construct_eq s)).trans (C04.v3_construct_accepts_iff s)

/-- … and otherwise raises the malformed or the mandatory class: no exception escapes the hierarchy -/
theorem source_v3_construct_outcomes (s : Str) :
    (∃ x, Code3.construct s = .ok x) ∨
      ∃ e, Code3.construct s = .error e ∧ (e.toErr = .malformed ∨ e.toErr = .mandatory) :=
  Py.outcomes_of AnyObj.o3 (construct_eq s) (C04.construct_outcomes .v3 s)

theorem source_v3_construct_mandatory_iff (s : Str) :
    (∃ e, Code3.construct s = .error e ∧ e.toErr = .mandatory) ↔ LacksMandatory g3 s :=
  (Py.raises_iff (construct_eq s) .mandatory).trans (C04.v3_construct_mandatory_iff s)

theorem source_v3_construct_scores (s : Str) (x : Code3.Self) (hx : Code3.construct s = .ok x) :
    ∃ o, V3.construct s = .ok o ∧ x.minor_version = some (o.minor : Int) ∧ x.original_metrics = some o.orig ∧
      x.metrics = o.metrics ∧ x.base_score = some o.base ∧ x.temporal_score = some o.temporal ∧
      x.environmental_score = some o.env := by
  obtain ⟨o, ho, hv⟩ := Py.ok_of_ok (construct_eq s) hx
  simp only [Prod.mk.injEq] at hv
  exact ⟨o, ho, hv.2.1, hv.2.2.1, hv.2.2.2.1, hv.2.2.2.2.1, hv.2.2.2.2.2.1, hv.2.2.2.2.2.2⟩

end Cvss.Props.CodeTie3
