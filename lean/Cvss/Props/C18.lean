/-
  C18 — a constructed object is an immutable value with total, pure accessors.
-/
import Cvss.Props.C10
namespace Cvss.Props.C18
open Cvss Cvss.Model Cvss.Lemmas.Construct

/-- accessors all three classes have (`get_value_description` is not among them; the sub-vectors of v2 / v3 are C15's); `==` takes a second object,
    so the one-object operation is `o == o` -/
inductive Op | scores | severities | clean (p : Bool) | rh | json (sort minimal : Bool) | eqSelf | hash
  deriving Repr

inductive Out | scores (x : List (Option Rat)) | strs (x : List Str) | str (x : Str) | json (x : Option JObj) | bool (b : Bool)

def call (o : AnyObj) : Op → Out
  | .scores => .scores o.scores
  | .severities => .strs o.severities
  | .clean p => .str (o.clean p)
  | .rh => .str o.rh
  | .json s m => .json (o.asJson s m)
  | .eqSelf => .bool (o.eq o)
  | .hash => .str o.hashKey

/-- accessor calls do not change the object -/
def step (o : AnyObj) (op : Op) : AnyObj × Out := (o, call o op)

def runOps (o : AnyObj) : List Op → AnyObj × List Out
  | [] => (o, [])
  | op :: rest => let r := step o op; let q := runOps r.1 rest; (q.1, r.2 :: q.2)

/-- for every sequence of accessor calls the object is unchanged and each output equals the single-call
    output (in the model the object is an immutable value; the Python object is tied by correspondence) -/
theorem accessors_pure (o : AnyObj) (ops : List Op) : (runOps o ops).1 = o ∧ (runOps o ops).2 = ops.map (call o) := by
  induction ops with
  | nil => exact ⟨rfl, rfl⟩
  | cons op rest ih => simp only [runOps, step, ih.1, ih.2, List.map_cons, and_self]

/-- total: on a constructed object the only accessor that could fail in the model — `as_json`, through a
    missing table entry — never does, for any options -/
theorem accessors_total_v2 (s : Str) (o : V2.Obj) (h : V2.construct s = .ok o) (sort minimal : Bool) :
    ((AnyObj.o2 o).asJson sort minimal).isSome = true := by
  obtain ⟨j, hj, -⟩ := C10.v2_json_valid s o h sort minimal
  simp only [AnyObj.asJson, hj, Option.isSome_some]

theorem accessors_total_v3 (s : Str) (o : V3.Obj) (h : V3.construct s = .ok o) (sort minimal : Bool) :
    ((AnyObj.o3 o).asJson sort minimal).isSome = true := by
  obtain ⟨j, hj, -⟩ := C10.v3_json_valid s o h sort minimal
  simp only [AnyObj.asJson, hj, Option.isSome_some]

theorem v4_metrics_lookup {s : Str} {o : V4.Obj} (h : V4.construct s = .ok o) :
    Lemmas.V4.Valid o.orig ∧ ∀ k, lookup k o.metrics = Lemmas.V4.fullLookup o.orig k := by
  obtain ⟨m, hp, hb⟩ := (v4_construct_ok_iff s o).1 h
  have hv : Lemmas.V4.Valid m := validMap4_of_parse hp
  obtain ⟨m1, hm1, hfull⟩ := Lemmas.V4.full_spec m hv
  unfold V4.build at hb
  rw [hm1] at hb
  cases h2 : V4.baseScore (V4.fillDefaults m1 V4.defaultedMetrics) with
  | none =>
    simp only [Option.bind_eq_bind, Option.bind_some, h2, Option.bind_none] at hb
    cases hb
  | some b =>
    simp only [Option.bind_eq_bind, Option.bind_some, h2] at hb
    cases hb
    exact ⟨hv, hfull⟩

/-- `k.drop 1`: the base metric of a Modified metric -/
theorem v4_dom : (∀ k ∈ Gen.V4.metricsOrder,
      k ∈ Gen.V4.mandatory ∨ k ∈ V4.modifiedMetrics ∨ k ∈ V4.defaultedMetrics) ∧
    (∀ k ∈ V4.modifiedMetrics, k.drop 1 ∈ V4.tables.mandatory ∧
      ∀ v ∈ Lemmas.V4.legalOf (k.drop 1), v ∈ Lemmas.V4.legalOf k) ∧
    ∀ k ∈ V4.defaultedMetrics, Model.V4.X ∈ Lemmas.V4.legalOf k := by decide +kernel

theorem fullLookup_legal {m : MMap} (hv : Lemmas.V4.Valid m) {k : Str} (hk : k ∈ Gen.V4.metricsOrder) :
    ∃ v, Lemmas.V4.fullLookup m k = some v ∧ v ∈ Lemmas.V4.legalOf k := by
  unfold Lemmas.V4.fullLookup
  by_cases hmod : k ∈ V4.modifiedMetrics ∧ (lookup k m = none ∨ lookup k m = some V4.X)
  · obtain ⟨hb, hsub⟩ := v4_dom.2.1 k hmod.1
    obtain ⟨v, hkv⟩ := Option.isSome_iff_exists.mp (hv.2 _ hb)
    refine ⟨v, ?_, hsub v (Lemmas.V4.valid_legal hv hkv)⟩
    simp only [if_pos hmod, hkv]
    simp
  · simp only [if_neg hmod]
    cases hl : lookup k m with
    | some v => exact ⟨v, by simp, Lemmas.V4.valid_legal hv hl⟩
    | none =>
      rcases v4_dom.1 k hk with hk | hk | hk
      · have := hv.2 k hk
        rw [hl] at this
        cases this
      · exact absurd ⟨hk, Or.inl hl⟩ hmod
      · exact ⟨V4.X, by simp [hk], v4_dom.2.2 k hk⟩

theorem v4_keys : ∀ k ∈ Gen.V4.metricsOrder, (lookup k Gen.V4.jsonKeys).isSome = true := by decide +kernel

/-- every metric of `METRICS` has a JSON key and, its value being legal, a description (`V4.tables.legal` is
    read off `METRICS_VALUE_NAMES` itself) -/
theorem v4_asJson_isSome {s : Str} {o : V4.Obj} (h : V4.construct s = .ok o) (sort minimal : Bool) :
    (asJson4 o sort minimal).isSome = true := by
  obtain ⟨hv, hfull⟩ := v4_metrics_lookup h
  rw [asJson4_run, Option.isSome_iff_exists]
  refine ⟨_, (runJson_eq_some _ _ _ _ _ _ _).2 ⟨?_, rfl⟩⟩
  -- the one block of v4 is switched on
  rintro g (_ | ⟨_, ⟨⟩⟩) k hk
  obtain ⟨v, hfv, hleg⟩ := fullLookup_legal hv hk
  obtain ⟨row, d, hrow, hd⟩ := C10.descr_of_legal (names := Gen.V4.valueNames) rfl hleg
  obtain ⟨key, h1⟩ := Option.isSome_iff_exists.1 (v4_keys k hk)
  refine ⟨key, d, h1, ?_⟩
  unfold V4.getDescription
  rw [hrow, hfull k, hfv]
  exact hd

theorem accessors_total_v4 (s : Str) (o : V4.Obj) (h : V4.construct s = .ok o) (sort minimal : Bool) :
    ((AnyObj.o4 o).asJson sort minimal).isSome = true :=
  v4_asJson_isSome h sort minimal

end Cvss.Props.C18
