/-
  C14 (v4.0) finite checks: no change of class that one severity step can cause, and no step of E, lowers the
  interpolated value (`≤`), in every context of the other classes (minimum over the corners of their distances).
-/
import Cvss.Lemmas.V4Mono
namespace Cvss.Props.C14
open Cvss Cvss.Lemmas.V4Mono

theorem chk_g1 : chk 0 = true := by decide +kernel
theorem chk_g2 : chk 1 = true := by decide +kernel
theorem chk_g36 : chk 2 = true := by decide +kernel
theorem chk_g4 : chk 3 = true := by decide +kernel
theorem chk_g5 : chkE = true := by decide +kernel

theorem chk_all : ∀ g < 4, chk g = true
  | 0, _ => chk_g1
  | 1, _ => chk_g2
  | 2, _ => chk_g36
  | 3, _ => chk_g4

end Cvss.Props.C14
