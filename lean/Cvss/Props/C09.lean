/-
  C09 — scores are well-formed and severity ratings follow the official scale.
-/
import Cvss.Spec.Severity
import Cvss.Lemmas.Any
namespace Cvss.Props.C09
open Cvss Cvss.Model

/-- the v3 rating function is the official scale on every representable score (v4: the next theorem, the same body) -/
theorem rating_v3_official : ∀ t ∈ List.range 101, V3.sevOf ((t : Rat) / 10) = Spec.Severity.rating34 t := by
  decide +kernel

theorem rating_v4_official : ∀ t ∈ List.range 101, V4.sevOf ((t : Rat) / 10) = Spec.Severity.rating34 t :=
  -- `V4.sevOf` has the body of `V3.sevOf`
  rating_v3_official

/-- the v2 rating function is the NVD scale, `None` for an undefined score -/
theorem rating_v2_official :
    V2.sevOf none = Spec.Severity.rating2 none ∧
    ∀ t ∈ List.range 101, V2.sevOf (some ((t : Rat) / 10)) = Spec.Severity.rating2 (some t) := by
  refine ⟨by decide +kernel, by decide +kernel⟩

/-- the `severity` attribute and `severities()` of a v4 object are the rating of its score by construction (the JSON
    view: C11 `asJson4_full`) -/
theorem v4_rating_views (o : V4.Obj) (s : Str) (m : MMap) (h : V4.build s m = some o) :
    o.severity = V4.sevOf o.base ∧ (AnyObj.o4 o).severities = [V4.sevOf o.base] := by
  simp only [V4.build, Option.bind_eq_bind, Option.bind_eq_some_iff, Option.pure_def, Option.some.injEq] at h
  obtain ⟨m1, -, b, -, rfl⟩ := h
  exact ⟨rfl, rfl⟩

/-- a well-formed score: an integer number of tenths between 0.0 and 10.0 -/
def IsScore (x : Rat) : Prop := ∃ k : Nat, k ≤ 100 ∧ x = (k : Rat) / 10

def tenths (x : Rat) : Nat := (x * 10).floor.toNat

theorem tenths_of_nat (k : Nat) : tenths ((k : Rat) / 10) = k := by
  have h : ((k : Rat) / 10) * 10 = ((k : Int) : Rat) := by
    push_cast
    field_simp
  rw [tenths, h, Rat.floor_intCast]
  simp

theorem sev2_official (sc : Option Rat) (h : ∀ x, sc = some x → IsScore x) :
    V2.sevOf sc = Spec.Severity.rating2 (sc.map tenths) := by
  cases sc with
  | none => exact rating_v2_official.1
  | some x =>
    obtain ⟨k, hk, rfl⟩ := h x rfl
    simp only [Option.map_some, tenths_of_nat]
    exact rating_v2_official.2 k (List.mem_range.2 (by omega))

theorem sev3_official (x : Rat) (h : IsScore x) : V3.sevOf x = Spec.Severity.rating34 (tenths x) := by
  obtain ⟨k, hk, rfl⟩ := h
  rw [tenths_of_nat]
  exact rating_v3_official k (List.mem_range.2 (by omega))

/-- v2: every reported score is well-formed; `None` occurs only for the temporal / environmental slot and
    exactly when every metric of that group is absent or ND; each rating is the NVD rating of its score
    ("None" for an undefined score) -/
theorem v2_scores_wellformed (s : Str) (o : V2.Obj) (h : V2.construct s = .ok o) :
    IsScore o.base ∧ (∀ x, o.temporal = some x → IsScore x) ∧ (∀ x, o.env = some x → IsScore x) ∧
    (o.temporal = none ↔ ∀ k ∈ Gen.V2.temporal, assignment V2.ND o.metrics k = V2.ND) ∧
    (o.env = none ↔ ∀ k ∈ Gen.V2.environmental, assignment V2.ND o.metrics k = V2.ND) ∧
    o.severities = o.scores.map (fun sc => Spec.Severity.rating2 (sc.map tenths)) := by
  obtain ⟨m, -, rfl⟩ := (Lemmas.Construct.v2_construct_ok_iff s o).1 h
  obtain ⟨hb', ht', he'⟩ := C03.v2_spec_range_all (assignment V2.ND m)
  refine ⟨hb', ht', he', ?_, ?_, ?_⟩
  · simp only [Gen.V2.temporal, List.mem_cons, List.not_mem_nil, or_false, forall_eq_or_imp, forall_eq]
    exact (C03.v2_none_iff (assignment V2.ND m)).1
  · simp only [Gen.V2.environmental, List.mem_cons, List.not_mem_nil, or_false, forall_eq_or_imp, forall_eq]
    exact (C03.v2_none_iff (assignment V2.ND m)).2
  · simp only [V2.Obj.severities, V2.Obj.scores, List.map_cons, List.map_nil]
    rw [sev2_official (some _) (by intro x hx; cases hx; exact hb'),
      sev2_official _ ht', sev2_official _ he']

theorem v3_scores_wellformed (s : Str) (o : V3.Obj) (h : V3.construct s = .ok o) :
    IsScore o.base ∧ IsScore o.temporal ∧ IsScore o.env ∧
    o.severities = [o.base, o.temporal, o.env].map (fun x => Spec.Severity.rating34 (tenths x)) := by
  have hsc : o.scores = Spec.V3.scores o.minor (assignment V3.X o.orig) := (construct_spec (toVer3 h)).scores
  simp only [V3.Obj.scores, Spec.V3.scores, List.cons.injEq, Option.some.injEq, and_true] at hsc
  obtain ⟨hb, ht, he⟩ := hsc
  obtain ⟨hb', ht', he'⟩ : IsScore o.base ∧ IsScore o.temporal ∧ IsScore o.env := by
    rw [hb, ht, he]
    exact C01.v3_spec_range _ _
  refine ⟨hb', ht', he', ?_⟩
  simp only [V3.Obj.severities, List.map_cons, List.map_nil]
  rw [sev3_official _ hb', sev3_official _ ht', sev3_official _ he']

/-- v4: the score is well-formed, and the rating exposed by `severity`, by `severities()` and (see C11
    `asJson4_full`) by the JSON is the official rating of the score -/
theorem v4_scores_wellformed (s : Str) (o : V4.Obj) (h : V4.construct s = .ok o) :
    IsScore o.base ∧ o.scores = [some o.base] ∧ o.severity = Spec.Severity.rating34 (tenths o.base) ∧
    o.severities = [Spec.Severity.rating34 (tenths o.base)] := by
  have hb : Spec.V4.score (assignment V4.X o.orig) = some o.base := (List.cons.inj (construct_spec (toVer4 h)).scores).1.symm
  have hs := Lemmas.Construct.v4_severity h
  obtain ⟨x, hx, k, hk, rfl⟩ := C02.v4_spec_range (assignment V4.X o.orig)
  rw [hb] at hx
  have hx' : o.base = (k : Rat) / 10 := Option.some.inj hx
  have hsev : o.severity = Spec.Severity.rating34 (tenths o.base) := by
    rw [hs, hx', tenths_of_nat]
    exact rating_v4_official k (List.mem_range.2 (by omega))
  refine ⟨⟨k, hk, hx'⟩, rfl, hsev, ?_⟩
  simp only [V4.Obj.severities, hsev]

/-- the score printed in `rh_vector()` / the JSON is the one-decimal text of the score: digits, a point, one digit -/
theorem showScore_wellformed (x : Rat) (hx : IsScore x) :
    showScore x = natToStr (tenths x / 10) ++ '.' :: [digitChar (tenths x % 10)] ∧ tenths x ≤ 100 ∧
      x = (tenths x : Rat) / 10 := by
  obtain ⟨k, hk, rfl⟩ := hx
  rw [tenths_of_nat]
  refine ⟨?_, hk, rfl⟩
  have hd : ∀ d, d < 10 → Nat.digitChar d = digitChar d := by decide
  have hlt : k % 10 < 10 := Nat.mod_lt _ (by decide)
  show natToStr (tenths ((k : Rat) / 10) / 10) ++ '.' :: natToStr (tenths ((k : Rat) / 10) % 10) = _
  rw [tenths_of_nat]
  show _ ++ '.' :: Nat.toDigits 10 (k % 10) = _
  rw [Nat.toDigits_of_lt_base hlt, hd _ hlt]

end Cvss.Props.C09
