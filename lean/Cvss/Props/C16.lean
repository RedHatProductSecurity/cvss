/-
  C16 — the interactive builder returns exactly the answered, valid vector.
  `Dialogue` is the specification (each metric consumes answers up to the first legal one) and `loop_spec` the
  invariant of the builder's loop against it, from which the `ask_*` theorems are read; `Agree` ties the tables
  the builder reads to the parser's, so that the result is the rendering of an accepted map.
-/
import Cvss.Model.Interactive
import Cvss.Lemmas.Parse
import Cvss.Props.C04
import Cvss.Lemmas.Interactive
namespace Cvss.Props.C16
open Cvss Cvss.Model Cvss.Model.Interactive

/-- the check that every legal value of metric `m`, typed as is or in lower case, selects itself -/
def selectable (v : IVer) (m : Str) : Bool :=
  match lookup m (valueNamesOf v) with
  | none => false
  | some row => (keys row).all (fun x =>
      select (keys row) (normalize v x) == some x && select (keys row) (normalize v (x.map Float.lower)) == some x)

/-- every legal value of every metric of every version can be selected (v4.0 Provider Urgency has values
    such as "Clear" that are not upper case: the answer is matched case-insensitively) -/
theorem selectable_all :
    (abbrsOf .i2).all (selectable .i2) = true ∧ (abbrsOf .i30).all (selectable .i30) = true ∧
    (abbrsOf .i31).all (selectable .i31) = true ∧ (abbrsOf .i4).all (selectable .i4) = true := by decide +kernel

/-- the empty answer selects Not Defined wherever it is legal (stated as a Boolean, proved by argument) -/
theorem empty_selects_nd :
    ([IVer.i2, .i30, .i31, .i4].all fun v => (abbrsOf v).all fun m =>
      match lookup m (valueNamesOf v) with
      | none => false
      | some row => !(ndOf v ∈ keys row) || select (keys row) (normalize v []) == some (ndOf v)) = true := by
  -- by `normalize_nil` the empty answer is selected like the legal value Not Defined (`selectable_all`)
  simp only [List.all_eq_true]
  intro v _ m hm
  have hs : (abbrsOf v).all (selectable v) = true := by
    -- name the four sweeps: `assumption` would compare them by evaluation
    cases v
    · exact selectable_all.1
    · exact selectable_all.2.1
    · exact selectable_all.2.2.1
    · exact selectable_all.2.2.2
  have h := List.all_eq_true.1 hs m hm
  unfold selectable at h
  cases hl : lookup m (valueNamesOf v) with
  | none =>
    rw [hl] at h
    cases h
  | some row =>
    rw [hl] at h
    by_cases hx : ndOf v ∈ keys row
    · have := List.all_eq_true.1 h _ hx
      rw [Bool.and_eq_true] at this
      simp only [normalize_nil, this.1, Bool.or_true]
    · simp only [hx, decide_false, Bool.not_false, Bool.true_or]

/-- what one answer means for a metric with legal values `values`: after stripping white space and
    ASCII case folding (empty = Not Defined), the legal value it denotes, if any -/
def accepted (v : IVer) (values : List Str) (answer : Str) : Option Str := select values (normalize v answer)

theorem accepted_legal (v : IVer) (values : List Str) (answer x : Str) (h : accepted v values answer = some x) :
    x ∈ values ∧ upper x = normalize v answer :=
  select_some h

/-- the dialogue the statement describes: the metrics are asked one after the other; each consumes
    answers up to and including the first one that denotes a legal value of that metric.
    `Dialogue v metrics answers acc rest`: asking `metrics` against `answers` accepts the pairs `acc`
    (metric, value) in order and leaves `rest` unread. -/
inductive Dialogue (v : IVer) : List Str → List Str → List (Str × Str) → List Str → Prop
  | done (answers : List Str) : Dialogue v [] answers [] answers
  | ask (m : Str) (ms : List Str) (row : List (Str × Str)) (bad : List Str) (good x : Str)
      (tail : List Str) (acc : List (Str × Str)) (rest : List Str) :
      lookup m (valueNamesOf v) = some row →
      (∀ b ∈ bad, accepted v (keys row) b = none) →
      accepted v (keys row) good = some x →
      Dialogue v ms tail acc rest →
      Dialogue v (m :: ms) (bad ++ good :: tail) ((m, x) :: acc) rest

def asked (v : IVer) (allMetrics : Bool) : List Str := if allMetrics then abbrsOf v else mandatoryOf v

theorem dialogue_cons_iff {v : IVer} {m : Str} {ms answers : List Str} {acc : List (Str × Str)}
    {rest : List Str} {row : List (Str × Str)} (hl : lookup m (valueNamesOf v) = some row) :
    Dialogue v (m :: ms) answers acc rest ↔
      ∃ x tail n acc', askOne v (keys row) answers = some (x, tail, n) ∧ acc = (m, x) :: acc' ∧
        Dialogue v ms tail acc' rest := by
  constructor
  · intro h
    cases h with
    | ask _ _ row' bad good x tail acc' _ hl' hbad hgood hd =>
      cases hl.symm.trans hl'
      exact ⟨x, tail, _, acc', (askOne_eq_some_iff ..).2 ⟨bad, good, rfl, hbad, hgood, rfl⟩, rfl, hd⟩
  · rintro ⟨x, tail, n, acc', ha, rfl, hd⟩
    obtain ⟨bad, good, rfl, hbad, hgood, -⟩ := (askOne_eq_some_iff ..).1 ha
    exact .ask m ms row bad good x tail acc' rest hl hbad hgood hd

/-- `fields`, `tr0`: fields and trace accumulated; `tr`: the trace of `ms` -/
theorem loop_spec (v : IVer) (ms answers fields : List Str) (tr0 : List (Str × Nat)) :
    (∃ acc rest tr, Dialogue v ms answers acc rest ∧
        (∀ acc' rest', Dialogue v ms answers acc' rest' → acc' = acc ∧ rest' = rest) ∧
        loop v ms answers fields tr0 =
          .result (prefixOf v ++ join '/' (fields ++ acc.map fieldOf)) (((tr0 ++ tr).map (·.2)).sum)
            (tr0 ++ tr) ∧
        tr.map (·.1) = ms ∧ (tr.map (·.2)).sum + rest.length = answers.length) ∨
      ((¬ ∃ acc rest, Dialogue v ms answers acc rest) ∧
        ((∃ trace, loop v ms answers fields tr0 = .eof trace) ∨
          (loop v ms answers fields tr0 = .keyError ∧ ∃ m ∈ ms, lookup m (valueNamesOf v) = none))) := by
  induction ms generalizing answers fields tr0 with
  | nil =>
    refine .inl ⟨[], answers, [], .done answers, ?_, by simp [loop_nil], rfl, by simp⟩
    intro acc' rest' h
    cases h
    exact ⟨rfl, rfl⟩
  | cons m ms ih =>
    cases hl : lookup m (valueNamesOf v) with
    | none =>
      refine .inr ⟨?_, .inr ⟨loop_cons_none v m ms answers fields tr0 hl, m, List.mem_cons_self, hl⟩⟩
      rintro ⟨acc, rest, hd⟩
      cases hd with
      | ask _ _ row _ _ _ _ _ _ hl' => cases hl.symm.trans hl'
    | some row =>
      cases ha : askOne v (keys row) answers with
      | none =>
        refine .inr ⟨?_, .inl ⟨_, loop_cons_eof v m ms answers fields tr0 row hl ha⟩⟩
        rintro ⟨acc, rest, hd⟩
        obtain ⟨x, tail, n, -, ha', -⟩ := (dialogue_cons_iff hl).1 hd
        cases ha.symm.trans ha'
      | some t =>
        obtain ⟨x, tail, k⟩ := t
        rw [loop_cons_some v m ms answers fields tr0 row x tail k hl ha]
        rcases ih tail (fields ++ [m ++ ':' :: x]) (tr0 ++ [(m, k)]) with
          ⟨acc, rest, tr, hd, huniq, hloop, hfst, hsum⟩ | ⟨hno, hout⟩
        · refine .inl ⟨(m, x) :: acc, rest, (m, k) :: tr,
            (dialogue_cons_iff hl).2 ⟨x, tail, k, acc, ha, rfl, hd⟩, ?_, ?_, by simp [hfst], ?_⟩
          · intro acc' rest' hd'
            obtain ⟨x', tail', n', acc'', ha', rfl, hd''⟩ := (dialogue_cons_iff hl).1 hd'
            cases ha.symm.trans ha'
            obtain ⟨rfl, rfl⟩ := huniq _ _ hd''
            exact ⟨rfl, rfl⟩
          · simpa only [List.append_assoc, List.singleton_append, List.cons_append, List.nil_append,
              List.map_cons, fieldOf] using hloop
          · have := askOne_length ha
            simp only [List.map_cons, List.sum_cons]
            omega
        · refine .inr ⟨?_, hout.imp id fun ⟨h, m', hm', hl'⟩ => ⟨h, m', List.mem_cons_of_mem _ hm', hl'⟩⟩
          rintro ⟨acc, rest, hd⟩
          obtain ⟨x', tail', n', acc', ha', -, hd'⟩ := (dialogue_cons_iff hl).1 hd
          cases ha.symm.trans ha'
          exact hno ⟨acc', rest, hd'⟩

theorem dialogue_of_ask_result {v : IVer} {a : Bool} {answers : List Str} {vec : Str} {n : Nat}
    {trace : List (Str × Nat)} (h : ask v a answers = .result vec n trace) :
    ∃ acc rest, Dialogue v (asked v a) answers acc rest ∧ vec = prefixOf v ++ join '/' (acc.map fieldOf) ∧
      n + rest.length = answers.length ∧ trace.map (·.1) = asked v a ∧ (trace.map (·.2)).sum = n := by
  rcases loop_spec v (asked v a) answers [] [] with
    ⟨acc, rest, tr, hd, -, hloop, hfst, hsum⟩ | ⟨-, ⟨_, h'⟩ | ⟨h', -⟩⟩
  · cases hloop.symm.trans h
    exact ⟨acc, rest, hd, rfl, hsum, hfst, rfl⟩
  · cases h.symm.trans h'
  · cases h.symm.trans h'

/-- the builder returns a vector `vec` after consuming `n` answers — asking each metric
    of the requested set exactly once, in table order (the trace it reports) — exactly when the dialogue
    of the statement completes having read `n` answers, and then the vector is the version prefix
    followed by exactly the accepted answers in the order asked (from a bare result:
    `dialogue_of_ask_result`) -/
theorem ask_result_iff (v : IVer) (allMetrics : Bool) (answers : List Str) (vec : Str) (n : Nat) :
    (∃ trace, ask v allMetrics answers = .result vec n trace ∧
        trace.map (·.1) = asked v allMetrics ∧ (trace.map (·.2)).sum = n) ↔
      ∃ acc rest, Dialogue v (asked v allMetrics) answers acc rest ∧
        vec = prefixOf v ++ join '/' (acc.map fieldOf) ∧ n + rest.length = answers.length := by
  constructor
  · rintro ⟨trace, h, -, -⟩
    obtain ⟨acc, rest, hd, hvec, hn, -⟩ := dialogue_of_ask_result h
    exact ⟨acc, rest, hd, hvec, hn⟩
  · rintro ⟨acc', rest', hd', rfl, hn⟩
    rcases loop_spec v (asked v allMetrics) answers [] [] with
      ⟨acc, rest, tr, hd, huniq, hloop, hfst, hsum⟩ | ⟨hno, -⟩
    · obtain ⟨rfl, rfl⟩ := huniq _ _ hd'
      obtain rfl : (tr.map (·.2)).sum = n := by omega
      exact ⟨tr, hloop, hfst, rfl⟩
    · exact absurd ⟨acc', rest', hd'⟩ hno

theorem dialogue_pairs (v : IVer) (ms answers : List Str) (acc : List (Str × Str)) (rest : List Str)
    (h : Dialogue v ms answers acc rest) :
    keys acc = ms ∧ ∀ kv ∈ acc, ∃ row, lookup kv.1 (valueNamesOf v) = some row ∧ kv.2 ∈ keys row := by
  induction h with
  | done answers => exact ⟨rfl, by simp⟩
  | ask m ms row bad good x tail acc rest hl hbad hgood hd ih =>
    refine ⟨congrArg (m :: ·) ih.1, ?_⟩
    rintro kv (_ | ⟨_, hkv⟩)
    · exact ⟨row, hl, (accepted_legal v _ _ _ hgood).1⟩
    · exact ih.2 kv hkv

/-- look-ups: neither the order of the rows nor that of the values in a row matters -/
def tablesAgree (abbrs : List Str) (names : List (Str × List (Str × Str))) (T : Tables) : Bool :=
  abbrs.all fun m =>
    match lookup m names, lookup m T.legal with
    | some row, some vs => (keys row).all fun x => decide (x ∈ vs)
    | _, _ => false

def mandatoryOk (T : Tables) : Bool :=
  decide T.mandatory.Nodup && T.mandatory.all (fun m => decide (m ∈ T.abbrs)) && !T.mandatory.isEmpty

/-- `T` is the parser's view of the tables the builder reads for version `v`: the same metrics, the same
    mandatory metrics, and every value the builder offers for a metric is legal for the parser
    (`METRICS_VALUE_NAMES` against `METRICS_VALUES` for v2 / v3; for v4 the parser reads
    `METRICS_VALUE_NAMES` itself) -/
structure Agree (v : IVer) (T : Tables) : Prop where
  abbrs : abbrsOf v = T.abbrs
  mandatory : mandatoryOf v = T.mandatory
  legal : ∀ m ∈ abbrsOf v, ∃ row vs, lookup m (valueNamesOf v) = some row ∧ lookup m T.legal = some vs ∧
    ∀ x ∈ keys row, x ∈ vs
  mandatory_wf : T.mandatory.Nodup ∧ (∀ m ∈ T.mandatory, m ∈ T.abbrs) ∧ T.mandatory ≠ []

theorem tablesAgree_row {abbrs : List Str} {names : List (Str × List (Str × Str))} {T : Tables}
    (h : tablesAgree abbrs names T = true) (m : Str) (hm : m ∈ abbrs) :
    ∃ row vs, lookup m names = some row ∧ lookup m T.legal = some vs ∧ ∀ x ∈ keys row, x ∈ vs := by
  have := List.all_eq_true.1 h m hm
  split at this
  next row vs h1 h2 => exact ⟨row, vs, h1, h2, by simpa using this⟩
  next => cases this

theorem row_of_legal_eq {names : List (Str × List (Str × Str))} {T : Tables} (hwf : T.wf = true)
    (h : T.legal = names.map (fun (k, row) => (k, keys row))) (m : Str) (hm : m ∈ T.abbrs) :
    ∃ row vs, lookup m names = some row ∧ lookup m T.legal = some vs ∧ ∀ x ∈ keys row, x ∈ vs := by
  obtain ⟨vs, hvs⟩ := Tables.wf_lookup_of_mem_abbrs hwf hm
  rw [h, lookup_map_keys] at hvs ⊢
  cases hl : lookup m names with
  | none => rw [hl] at hvs; cases hvs
  | some row => exact ⟨row, keys row, rfl, rfl, fun x hx => hx⟩

theorem tables_agree :
    tablesAgree (keys Gen.V2.abbrs) Gen.V2.valueNames V2.tables = true ∧
      tablesAgree (keys Gen.V3.abbrs) Gen.V3.valueNames V3.tables = true := by decide +kernel

theorem mandatory_ok :
    mandatoryOk V2.tables = true ∧ mandatoryOk V3.tables = true ∧ mandatoryOk V4.tables = true := by
  decide +kernel

theorem mandatoryOk_spec {T : Tables} (h : mandatoryOk T = true) :
    T.mandatory.Nodup ∧ (∀ m ∈ T.mandatory, m ∈ T.abbrs) ∧ T.mandatory ≠ [] := by
  simp only [mandatoryOk, Bool.and_eq_true, List.all_eq_true, decide_eq_true_eq, Bool.not_eq_true',
    List.isEmpty_eq_false_iff] at h
  exact ⟨h.1.1, h.1.2, h.2⟩

theorem agree2 : Agree .i2 V2.tables :=
  ⟨rfl, rfl, tablesAgree_row tables_agree.1, mandatoryOk_spec mandatory_ok.1⟩
theorem agree30 : Agree .i30 V3.tables :=
  ⟨rfl, rfl, tablesAgree_row tables_agree.2, mandatoryOk_spec mandatory_ok.2.1⟩
theorem agree31 : Agree .i31 V3.tables :=
  ⟨rfl, rfl, tablesAgree_row tables_agree.2, mandatoryOk_spec mandatory_ok.2.1⟩
theorem agree4 : Agree .i4 V4.tables :=
  ⟨rfl, rfl, row_of_legal_eq C04.tables_wf.2.2 rfl, mandatoryOk_spec mandatory_ok.2.2⟩

theorem agree (v : IVer) : ∃ T g, Agree v T ∧ C04.Pinned T g := by
  cases v
  · exact ⟨_, _, agree2, C04.pinned2⟩
  · exact ⟨_, _, agree30, C04.pinned3⟩
  · exact ⟨_, _, agree31, C04.pinned3⟩
  · exact ⟨_, _, agree4, C04.pinned4⟩

section agree
variable {v : IVer} {T : Tables} {g : Cvss.Spec.Grammar.G}

theorem Agree.asked_sub (h : Agree v T) (a : Bool) {m : Str} (hm : m ∈ asked v a) : m ∈ abbrsOf v := by
  cases a
  · rw [h.abbrs]
    exact h.mandatory_wf.2.1 m (h.mandatory ▸ hm)
  · exact hm

theorem Agree.legalPair (h : Agree v T) (hP : C04.Pinned T g) {m x : Str} {row : List (Str × Str)}
    (hm : m ∈ abbrsOf v) (hl : lookup m (valueNamesOf v) = some row) (hx : x ∈ keys row) :
    LegalPair T (m, x) := by
  have hab : m ∈ T.abbrs := h.abbrs ▸ hm
  obtain ⟨row', ws, hl', hleg, hsub⟩ := h.legal m hm
  cases hl.symm.trans hl'
  -- ':'-freeness comes from the grammar's vocabulary, which `T` is pinned to
  obtain ⟨vs, hvs⟩ := lookup_of_mem_keys ((hP.abbrs_iff m).1 hab)
  obtain ⟨ws', hws', hiff⟩ := hP.legal hvs
  cases hleg.symm.trans hws'
  obtain ⟨-, hc, hall⟩ := C04.tokensClean_spec hP.clean (lookup_mem hvs)
  exact ⟨hab, ⟨_, hleg, hsub x hx⟩, hc, (hall x ((hiff x).2 (hsub x hx))).2⟩

end agree

theorem ask_never_keyError (v : IVer) (allMetrics : Bool) (answers : List Str) :
    ask v allMetrics answers ≠ .keyError := by
  intro h
  obtain ⟨T, g, hA, -⟩ := agree v
  rcases loop_spec v (asked v allMetrics) answers [] [] with
    ⟨_, _, _, -, -, h', -⟩ | ⟨-, ⟨_, h'⟩ | ⟨-, m, hm, hl⟩⟩
  · cases h.symm.trans h'
  · cases h.symm.trans h'
  · obtain ⟨row, -, hrow, -⟩ := hA.legal m (hA.asked_sub allMetrics hm)
    cases hl.symm.trans hrow

/-- the builder ends with EOF exactly when the answers run out before every asked
    metric has received a legal answer -/
theorem ask_eof_iff (v : IVer) (allMetrics : Bool) (answers : List Str) :
    (∃ trace, ask v allMetrics answers = .eof trace) ↔
      ¬ ∃ acc rest, Dialogue v (asked v allMetrics) answers acc rest := by
  rcases loop_spec v (asked v allMetrics) answers [] [] with
    ⟨acc, rest, _, hd, -, hloop, -⟩ | ⟨hno, h | ⟨h, -⟩⟩
  · constructor
    · rintro ⟨_, h⟩
      cases hloop.symm.trans h
    · exact fun hno => absurd ⟨acc, rest, hd⟩ hno
  · exact ⟨fun _ => hno, fun _ => h⟩
  · exact absurd h (ask_never_keyError v allMetrics answers)

theorem ask_result_accepted {v : IVer} {T : Tables} {g : Cvss.Spec.Grammar.G} (hA : Agree v T)
    (hP : C04.Pinned T g) {a : Bool} {answers : List Str} {vec : Str} {n : Nat} {trace : List (Str × Nat)}
    (h : ask v a answers = .result vec n trace) :
    ∃ acc : MMap, vec = prefixOf v ++ join '/' (acc.map fieldOf) ∧ keys acc = asked v a ∧ Accepted T acc := by
  obtain ⟨acc, rest, hd, rfl, -⟩ := dialogue_of_ask_result h
  obtain ⟨hk, hrow⟩ := dialogue_pairs v _ answers acc rest hd
  obtain ⟨hnd, hsub, hne⟩ := hA.mandatory_wf
  have hleg : ∀ kv ∈ acc, LegalPair T kv := by
    intro kv hkv
    obtain ⟨row, hl, hx⟩ := hrow kv hkv
    exact hA.legalPair hP (hA.asked_sub a (hk ▸ List.mem_map.2 ⟨kv, hkv, rfl⟩)) hl hx
  have hasked : (asked v a).Nodup ∧ ∀ k ∈ T.mandatory, k ∈ asked v a := by
    cases a
    · show (mandatoryOf v).Nodup ∧ ∀ k ∈ T.mandatory, k ∈ mandatoryOf v
      rw [hA.mandatory]
      exact ⟨hnd, fun k hk' => hk'⟩
    · show (abbrsOf v).Nodup ∧ ∀ k ∈ T.mandatory, k ∈ abbrsOf v
      rw [hA.abbrs]
      exact ⟨hP.nodup, hsub⟩
  refine ⟨acc, rfl, hk, ⟨?_, hleg, hk ▸ hasked.1⟩, hk ▸ hasked.2⟩
  rintro rfl
  obtain ⟨k, hk'⟩ := List.exists_mem_of_ne_nil _ hne
  have := hasked.2 k hk'
  rw [← hk] at this
  cases this

/-- the returned vector is accepted by the parser of the builder's class, here and in `_v3`, `_v4`
    (`C08.ask_result_constructs` is the constructor-level statement) -/
theorem ask_result_parses_v2 (allMetrics : Bool) (answers : List Str) (vec : Str) (n : Nat) (trace : List (Str × Nat))
    (h : ask .i2 allMetrics answers = .result vec n trace) : ∃ m, V2.parse vec = .ok m := by
  obtain ⟨acc, rfl, -, hacc⟩ := ask_result_accepted agree2 C04.pinned2 h
  exact ⟨acc, C04.v2_parse_render acc hacc⟩

theorem ask_result_parses_v3 (v : IVer) (hv : v = .i30 ∨ v = .i31) (allMetrics : Bool) (answers : List Str) (vec : Str)
    (n : Nat) (trace : List (Str × Nat)) (h : ask v allMetrics answers = .result vec n trace) :
    ∃ m, V3.parse vec = .ok ((if v = .i30 then 0 else 1), m) := by
  rcases hv with rfl | rfl
  · obtain ⟨acc, rfl, -, hacc⟩ := ask_result_accepted agree30 C04.pinned3 h
    exact ⟨acc, C04.v3_parse_render 0 (.inl rfl) acc hacc⟩
  · obtain ⟨acc, rfl, -, hacc⟩ := ask_result_accepted agree31 C04.pinned3 h
    exact ⟨acc, C04.v3_parse_render 1 (.inr rfl) acc hacc⟩

theorem ask_result_parses_v4 (allMetrics : Bool) (answers : List Str) (vec : Str) (n : Nat) (trace : List (Str × Nat))
    (h : ask .i4 allMetrics answers = .result vec n trace) : ∃ m, V4.parse vec = .ok m := by
  obtain ⟨acc, rfl, -, hacc⟩ := ask_result_accepted agree4 C04.pinned4 h
  exact ⟨acc, C04.v4_parse_render acc hacc⟩

/-- non-vacuity: a concrete dialogue (one invalid answer, mixed case, padding) -/
example :
    (match ask .i31 false [c!"n", c!"?", c!" l", c!"N ", c!"r", c!"u", c!"H", c!"h", c!"H", c!"extra"] with
     | .result vec n _ => (vec, n) == (c!"CVSS:3.1/AV:N/AC:L/PR:N/UI:R/S:U/C:H/I:H/A:H", 9)
     | _ => false) = true := by decide +kernel

end Cvss.Props.C16
