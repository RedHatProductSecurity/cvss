/-
  The official v4.0 `vectorString` pattern as a list of rows (metric, value regex): 11 mandatory
  rows followed by 21 optional rows; every listing of legal values that has the mandatory metrics,
  rendered in the library's order, matches it (`listing_matches`).
-/
import Cvss.Spec.RegexPatterns
import Cvss.Model.V4
import Cvss.Lemmas.Regex
import Cvss.Lemmas.Parse
namespace Cvss.Spec.Regex
open Cvss Cvss.Model

/-- the mandatory part `/AV:[NALP]/AC:[LH]…` -/
def mandRows : List (Str × Re) := [
  (c!"AV", .cls ['N', 'A', 'L', 'P']),
  (c!"AC", .cls ['L', 'H']),
  (c!"AT", .cls ['N', 'P']),
  (c!"PR", .cls ['N', 'L', 'H']),
  (c!"UI", .cls ['N', 'P', 'A']),
  (c!"VC", .cls ['H', 'L', 'N']),
  (c!"VI", .cls ['H', 'L', 'N']),
  (c!"VA", .cls ['H', 'L', 'N']),
  (c!"SC", .cls ['H', 'L', 'N']),
  (c!"SI", .cls ['H', 'L', 'N']),
  (c!"SA", .cls ['H', 'L', 'N'])]

/-- the optional part `(/E:[XAPU])?(/CR:[XHML])?…` in the official order -/
def optRows : List (Str × Re) := [
  (c!"E", .cls ['X', 'A', 'P', 'U']),
  (c!"CR", .cls ['X', 'H', 'M', 'L']),
  (c!"IR", .cls ['X', 'H', 'M', 'L']),
  (c!"AR", .cls ['X', 'H', 'M', 'L']),
  (c!"MAV", .cls ['X', 'N', 'A', 'L', 'P']),
  (c!"MAC", .cls ['X', 'L', 'H']),
  (c!"MAT", .cls ['X', 'N', 'P']),
  (c!"MPR", .cls ['X', 'N', 'L', 'H']),
  (c!"MUI", .cls ['X', 'N', 'P', 'A']),
  (c!"MVC", .cls ['X', 'N', 'L', 'H']),
  (c!"MVI", .cls ['X', 'N', 'L', 'H']),
  (c!"MVA", .cls ['X', 'N', 'L', 'H']),
  (c!"MSC", .cls ['X', 'N', 'L', 'H']),
  (c!"MSI", .cls ['X', 'N', 'L', 'H', 'S']),
  (c!"MSA", .cls ['X', 'N', 'L', 'H', 'S']),
  (c!"S", .cls ['X', 'N', 'P']),
  (c!"AU", .cls ['X', 'N', 'Y']),
  (c!"R", .cls ['X', 'A', 'U', 'I']),
  (c!"V", .cls ['X', 'D', 'C']),
  (c!"RE", .cls ['X', 'L', 'M', 'H']),
  (c!"U", Re.alts [Re.lit c!"X", Re.lit c!"Clear", Re.lit c!"Green", Re.lit c!"Amber", Re.lit c!"Red"])]

def fieldSeq (r : Str × Re) : List Re := .chr '/' :: (r.1.map .chr ++ [.chr ':', r.2])

def optField (r : Str × Re) : Re := Re.opt (Re.seqs (fieldSeq r))

/-- what the pattern has for a row: `/K:R` as components, or the one component `(/K:R)?` -/
def rowRe (mand : Bool) (r : Str × Re) : List Re := if mand then fieldSeq r else [optField r]

theorem pattern40_eq : pattern40 = Re.seqs (c!"CVSS:4.0".map .chr ++
    (mandRows.flatMap (rowRe true) ++ optRows.flatMap (rowRe false))) := by rfl

theorem matches_field (r : Str × Re) (v : Str) (h : Matches r.2 v) :
    Matches (Re.seqs (fieldSeq r)) ('/' :: (r.1 ++ ':' :: v)) := by
  unfold fieldSeq
  apply matches_chr_cons
  apply matches_lit_append
  exact matches_chr_cons (l := [r.2]) ':' h

theorem matches_rows (mand : Bool) (g : Str → Option Str) (rows : List (Str × Re))
    (hv : ∀ r ∈ rows, ∀ v, g r.1 = some v → Matches r.2 v)
    (hd : mand = true → ∀ r ∈ rows, ∃ v, g r.1 = some v) :
    Matches (Re.seqs (rows.flatMap (rowRe mand)))
      ((rows.map (·.1)).filterMap fun k => (g k).map fun v => '/' :: fieldOf (k, v)).flatten := by
  induction rows with
  | nil => exact .eps
  | cons r rows ih =>
    have h2 := ih (fun r' hr' => hv r' (List.mem_cons_of_mem _ hr'))
      (fun hm r' hr' => hd hm r' (List.mem_cons_of_mem _ hr'))
    simp only [List.flatMap_cons, List.map_cons, List.filterMap_cons]
    cases hg : g r.1 with
    | none =>
      cases mand
      · exact matches_seqs_append (s1 := []) (.altR .eps) h2
      · obtain ⟨v, h⟩ := hd rfl r List.mem_cons_self
        rw [hg] at h
        cases h
    | some v =>
      have hf := matches_field r v (hv r List.mem_cons_self v hg)
      rw [Option.map_some, List.flatten_cons]
      cases mand
      · exact matches_seqs_append (l1 := [optField r]) (.altL hf) h2
      · exact matches_seqs_append hf h2

/-- A row whose metric had no entry in `legal` would pass unchecked; harmless, since `listing_matches` is
    given such an entry (`hl`) with every listed value. -/
theorem rows_ok :
    ((mandRows ++ optRows).all (fun r => (lookup r.1 V4.tables.legal).all (·.all (fullMatch r.2))) &&
      mandRows.all (fun r => decide (r.1 ∈ V4.tables.mandatory))) = true := by
  decide +kernel

/-- the emission order of the library (`METRICS_ABBREVIATIONS`) is the order of the official pattern -/
theorem order_ok : keys Gen.V4.abbrs = mandRows.map (·.1) ++ optRows.map (·.1) := by
  decide +kernel

theorem listing_matches (g : Str → Option Str)
    (hl : ∀ k v, g k = some v → ∃ vs, lookup k V4.tables.legal = some vs ∧ v ∈ vs)
    (hm : ∀ k ∈ V4.tables.mandatory, ∃ v, g k = some v) :
    Matches pattern40 (V4.pfx ++
      join '/' (((keys Gen.V4.abbrs).filterMap fun k => (g k).map fun v => (k, v)).map fieldOf)) := by
  have hok := rows_ok
  simp only [Bool.and_eq_true, List.all_eq_true, decide_eq_true_eq] at hok
  obtain ⟨hval, hmem⟩ := hok
  have hv : ∀ r ∈ mandRows ++ optRows, ∀ v, g r.1 = some v → Matches r.2 v := by
    intro r hr v hg
    obtain ⟨vs, hvs, hin⟩ := hl _ _ hg
    have := hval r hr
    rw [hvs] at this
    exact (fullMatch_iff_matches _ _).1 (List.all_eq_true.1 this v hin)
  -- the listing is not empty (`AV` is mandatory), so `"CVSS:4.0/" ++ join '/' fs` is `"CVSS:4.0"` and
  -- then `'/' :: f` for each `f`
  obtain ⟨v, hAV⟩ := hm c!"AV" (by decide)
  have hne : ((keys Gen.V4.abbrs).filterMap fun k => (g k).map fun v => (k, v)).map fieldOf ≠ [] := by
    rw [Ne, List.map_eq_nil_iff]
    exact List.ne_nil_of_mem (List.mem_filterMap.2 ⟨c!"AV", by decide, by rw [hAV]; rfl⟩)
  show Matches pattern40 (c!"CVSS:4.0" ++ '/' :: join '/' _)
  rw [sep_cons_join _ _ hne, List.map_map, List.map_filterMap, order_ok, List.filterMap_append,
    List.flatten_append, pattern40_eq]
  simp only [Option.map_map]
  exact matches_lit_append _ (matches_seqs_append
    (matches_rows true g _ (fun r hr => hv r (List.mem_append_left _ hr)) fun _ r hr => hm _ (hmem r hr))
    (matches_rows false g _ (fun r hr => hv r (List.mem_append_right _ hr)) nofun))

end Cvss.Spec.Regex
