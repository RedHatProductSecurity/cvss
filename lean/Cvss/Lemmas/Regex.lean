/-
  The Brzozowski-derivative matcher of `Cvss/Spec/Regex.lean` decides the declarative semantics;
  general lemmas on `Matches` for sequences, literals and `(F/)*F`.
-/
import Cvss.Spec.Regex
import Cvss.Lemmas.Str
namespace Cvss.Spec.Regex
open Cvss

theorem not_matches_empty (s : Str) : ¬ Matches .empty s := by
  intro h; cases h

theorem matches_eps_iff {s : Str} : Matches .eps s ↔ s = [] := by
  constructor
  · intro h; cases h; rfl
  · rintro rfl; exact .eps

theorem matches_chr_iff {c : Char} {s : Str} : Matches (.chr c) s ↔ s = [c] := by
  constructor
  · intro h; cases h; rfl
  · rintro rfl; exact .chr c

theorem matches_cls_iff {cs : List Char} {s : Str} :
    Matches (.cls cs) s ↔ ∃ c, c ∈ cs ∧ s = [c] := by
  constructor
  · intro h
    cases h with
    | cls _ c hc => exact ⟨c, hc, rfl⟩
  · rintro ⟨c, hc, rfl⟩; exact .cls cs c hc

theorem matches_any_iff {s : Str} : Matches .any s ↔ ∃ c, c ≠ '\n' ∧ s = [c] := by
  constructor
  · intro h
    cases h with
    | any c hc => exact ⟨c, hc, rfl⟩
  · rintro ⟨c, hc, rfl⟩; exact .any c hc

theorem matches_seq_iff {a b : Re} {s : Str} :
    Matches (.seq a b) s ↔ ∃ s1 s2, s = s1 ++ s2 ∧ Matches a s1 ∧ Matches b s2 := by
  constructor
  · intro h
    cases h with
    | seq h1 h2 => exact ⟨_, _, rfl, h1, h2⟩
  · rintro ⟨s1, s2, rfl, h1, h2⟩; exact .seq h1 h2

theorem matches_alt_iff {a b : Re} {s : Str} :
    Matches (.alt a b) s ↔ Matches a s ∨ Matches b s := by
  constructor
  · intro h
    cases h with
    | altL h => exact Or.inl h
    | altR h => exact Or.inr h
  · rintro (h | h)
    · exact .altL h
    · exact .altR h

theorem matches_opt_iff {a : Re} {s : Str} : Matches (Re.opt a) s ↔ Matches a s ∨ s = [] :=
  matches_alt_iff.trans (or_congr_right matches_eps_iff)

theorem matches_seq_nil {a b : Re} : Matches (.seq a b) [] ↔ Matches a [] ∧ Matches b [] := by
  rw [matches_seq_iff]
  constructor
  · rintro ⟨s1, s2, e, h⟩
    obtain ⟨rfl, rfl⟩ := List.append_eq_nil_iff.1 e.symm
    exact h
  · exact fun h => ⟨[], [], rfl, h⟩

theorem matches_eps_seq {b : Re} {s : Str} : Matches (.seq .eps b) s ↔ Matches b s := by
  rw [matches_seq_iff]
  constructor
  · rintro ⟨s1, s2, rfl, h1, h2⟩
    cases matches_eps_iff.1 h1
    exact h2
  · exact fun h => ⟨[], s, rfl, .eps, h⟩

theorem matches_seq_eps {a : Re} {s : Str} : Matches (.seq a .eps) s ↔ Matches a s := by
  rw [matches_seq_iff]
  constructor
  · rintro ⟨s1, s2, rfl, h1, h2⟩
    cases matches_eps_iff.1 h2
    simpa using h1
  · exact fun h => ⟨s, [], by simp, h, .eps⟩

theorem matches_seq_cons {a b : Re} {c : Char} {s : Str} :
    Matches (.seq a b) (c :: s) ↔
      (∃ s1 s2, s = s1 ++ s2 ∧ Matches a (c :: s1) ∧ Matches b s2) ∨
        (Matches a [] ∧ Matches b (c :: s)) := by
  rw [matches_seq_iff]
  constructor
  · rintro ⟨t1, t2, e, h1, h2⟩
    rcases List.cons_eq_append_iff.1 e with ⟨rfl, rfl⟩ | ⟨t, rfl, rfl⟩
    · exact .inr ⟨h1, h2⟩
    · exact .inl ⟨t, t2, rfl, h1, h2⟩
  · rintro (⟨s1, s2, rfl, h1, h2⟩ | ⟨h1, h2⟩)
    · exact ⟨c :: s1, s2, rfl, h1, h2⟩
    · exact ⟨[], c :: s, rfl, h1, h2⟩

theorem matches_star_cons {a : Re} {c : Char} {s : Str} :
    Matches (.star a) (c :: s) ↔
      ∃ s1 s2, s = s1 ++ s2 ∧ Matches a (c :: s1) ∧ Matches (.star a) s2 := by
  constructor
  · generalize hr : Re.star a = r, ht : c :: s = t
    intro h
    induction h with
    | starCons h1 h2 _ ih2 =>
      cases hr
      -- an empty first iteration is skipped: the induction hypothesis of the remaining star applies
      rcases List.cons_eq_append_iff.1 ht with ⟨rfl, rfl⟩ | ⟨t, rfl, rfl⟩
      · exact ih2 rfl rfl
      · exact ⟨t, _, rfl, h1, h2⟩
    | starNil => cases ht
    | _ => cases hr
  · rintro ⟨s1, s2, rfl, h1, h2⟩
    exact .starCons (s := c :: s1) h1 h2

theorem nullable_iff (r : Re) : nullable r = true ↔ Matches r [] := by
  induction r with
  | seq a b iha ihb => simp only [nullable, matches_seq_nil, ← iha, ← ihb, Bool.and_eq_true]
  | alt a b iha ihb => simp only [nullable, matches_alt_iff, ← iha, ← ihb, Bool.or_eq_true]
  | star a _ => simp only [nullable, Matches.starNil]
  | _ =>
    simp [nullable, not_matches_empty, matches_eps_iff, matches_chr_iff, matches_cls_iff,
      matches_any_iff]

theorem matches_mkSeq {a b : Re} {s : Str} : Matches (mkSeq a b) s ↔ Matches (.seq a b) s := by
  unfold mkSeq
  split
  · simp [matches_seq_iff, not_matches_empty]
  · simp [matches_seq_iff, not_matches_empty]
  · exact matches_eps_seq.symm
  · exact matches_seq_eps.symm
  · rfl

theorem matches_mkAlt {a b : Re} {s : Str} : Matches (mkAlt a b) s ↔ Matches (.alt a b) s := by
  rw [matches_alt_iff]
  unfold mkAlt
  split
  · simp [not_matches_empty]
  · simp [not_matches_empty]
  · split
    · rename_i h; subst h; simp
    · exact matches_alt_iff

/-- the derivative of a one-character expression (`chr`, `cls`, `any`) -/
theorem matches_deriv_single (P : Char → Prop) [DecidablePred P] (c : Char) (s : Str) :
    Matches (if P c then .eps else .empty) s ↔ ∃ d, P d ∧ c :: s = [d] := by
  split
  · next hc =>
    rw [matches_eps_iff]
    constructor
    · rintro rfl
      exact ⟨c, hc, rfl⟩
    · rintro ⟨d, -, e⟩
      cases e
      rfl
  · next hc =>
    refine ⟨fun h => absurd h (not_matches_empty _), ?_⟩
    rintro ⟨d, hd, e⟩
    cases e
    exact absurd hd hc

theorem matches_deriv (c : Char) (r : Re) : ∀ s, Matches (deriv c r) s ↔ Matches r (c :: s) := by
  induction r with
  | empty => simp [deriv, not_matches_empty]
  | eps => simp [deriv, not_matches_empty, matches_eps_iff]
  | chr d =>
    intro s
    simpa [deriv, matches_chr_iff] using matches_deriv_single (· = d) c s
  | cls cs =>
    intro s
    rw [matches_cls_iff]
    exact matches_deriv_single (· ∈ cs) c s
  | any =>
    intro s
    rw [matches_any_iff]
    exact matches_deriv_single (· ≠ '\n') c s
  | seq a b iha ihb =>
    intro s
    have key : Matches (mkSeq (deriv c a) b) s ↔
        ∃ s1 s2, s = s1 ++ s2 ∧ Matches a (c :: s1) ∧ Matches b s2 := by
      simp only [matches_mkSeq, matches_seq_iff, iha]
    rw [matches_seq_cons, ← nullable_iff, ← ihb, ← key, deriv]
    split
    · next hn => simp [matches_mkAlt, matches_alt_iff, hn]
    · next hn => simp [hn]
  | alt a b iha ihb => simp only [deriv, matches_mkAlt, matches_alt_iff, iha, ihb, implies_true]
  | star a iha => simp only [deriv, matches_mkSeq, matches_seq_iff, matches_star_cons, iha, implies_true]

theorem fullMatch_nil (r : Re) : fullMatch r [] = nullable r := rfl

theorem fullMatch_cons (r : Re) (c : Char) (s : Str) :
    fullMatch r (c :: s) = fullMatch (deriv c r) s := rfl

theorem fullMatch_iff_matches (r : Re) (s : Str) : fullMatch r s = true ↔ Matches r s := by
  induction s generalizing r with
  | nil => rw [fullMatch_nil]; exact nullable_iff r
  | cons c s ih => rw [fullMatch_cons, ih, matches_deriv]

theorem matches_seqs_cons {a : Re} {l : List Re} {s : Str} :
    Matches (Re.seqs (a :: l)) s ↔ ∃ s1 s2, s = s1 ++ s2 ∧ Matches a s1 ∧ Matches (Re.seqs l) s2 := by
  cases l with
  | nil => exact matches_seq_eps.symm.trans matches_seq_iff
  | cons b l => exact matches_seq_iff

theorem matches_seqs_cons_mk {a : Re} {l : List Re} {s1 s2 : Str} (h1 : Matches a s1)
    (h2 : Matches (Re.seqs l) s2) : Matches (Re.seqs (a :: l)) (s1 ++ s2) :=
  matches_seqs_cons.2 ⟨s1, s2, rfl, h1, h2⟩

theorem matches_seqs_append {l1 l2 : List Re} {s1 s2 : Str} (h1 : Matches (Re.seqs l1) s1)
    (h2 : Matches (Re.seqs l2) s2) : Matches (Re.seqs (l1 ++ l2)) (s1 ++ s2) := by
  induction l1 generalizing s1 with
  | nil =>
    have : s1 = [] := matches_eps_iff.1 h1
    subst this
    simpa using h2
  | cons a l ih =>
    obtain ⟨t1, t2, rfl, ha, hl⟩ := matches_seqs_cons.1 h1
    rw [List.cons_append, List.append_assoc]
    exact matches_seqs_cons_mk ha (ih hl)

theorem matches_chr_cons {l : List Re} {s : Str} (c : Char) (h : Matches (Re.seqs l) s) :
    Matches (Re.seqs (.chr c :: l)) (c :: s) :=
  matches_seqs_cons_mk (s1 := [c]) (.chr c) h

theorem matches_lit_append {l : List Re} {s : Str} (k : Str) (h : Matches (Re.seqs l) s) :
    Matches (Re.seqs (k.map .chr ++ l)) (k ++ s) := by
  induction k with
  | nil => simpa using h
  | cons c k ih => exact matches_chr_cons c ih

theorem matches_star_sep (F : Re) (sep : Char) (fields : List Str) (hne : fields ≠ [])
    (h : ∀ f ∈ fields, Matches F f) :
    Matches (.seq (.star (.seq F (.chr sep))) F) (join sep fields) := by
  obtain ⟨f, fs, rfl⟩ := List.exists_cons_of_ne_nil hne
  induction fs generalizing f with
  | nil => exact Matches.seq (s := []) .starNil (h f (by simp))
  | cons g gs ih =>
    obtain ⟨s1, s2, e, h1, h2⟩ := matches_seq_iff.1
      (ih g (by simp) fun x hx => h x (List.mem_cons_of_mem _ hx))
    rw [join_cons_cons, e]
    have := Matches.seq (Matches.starCons (.seq (h f (by simp)) (.chr sep)) h1) h2
    simpa using this

/-- `pre (F/)* F`, right-nested the way the `vectorString` patterns spell it -/
def sepRe (pre : List Re) (F : Re) : Re := Re.seqs (pre ++ [.seq (.star (.seq F (.chr '/'))) F])

theorem matches_sepRe {pre : List Re} {F : Re} {p : Str} (hpre : Matches (Re.seqs pre) p)
    {fields : List Str} (hne : fields ≠ []) (h : ∀ f ∈ fields, Matches F f) :
    Matches (sepRe pre F) (p ++ join '/' fields) :=
  matches_seqs_append hpre (matches_star_sep F '/' fields hne h)

end Cvss.Spec.Regex
