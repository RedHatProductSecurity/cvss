/-
  C14 (v4.0): Boolean checkers over pairs of neighbouring macrovectors (`okStep`, `chk`, `chkE`; evaluated in
  `Props/C14V4Tables.lean`), sound for the interpolated value `rawN`; one severity step of one metric is such a pair
  or stays in its class (`raw_step`, `raw_step_E`); from `rawN` to the score, clamping and rounding are monotone.
-/
import Mathlib.Tactic.NormNum
import Cvss.Lemmas.V4Levels
namespace Cvss.Lemmas.V4Mono
open Cvss Cvss.Lemmas.V4Table Cvss.Lemmas.V4Search Cvss.Lemmas.Num

def dmax (m : MV) (j : Nat) : Nat := (grp j).dmax (get m j)

/-- `g = 4`: no group moves (the step of E).  The groups `j ≠ g` keep their classes, so `dmax m j` bounds their
    distances on both sides; the truncated subtraction is the larger of the two corner values of `(K' - K) · δ`
    (`corner`), the worst case for the inequality. -/
def okStep (m m' : MV) (g d d' : Nat) : Bool :=
  let T := fun j => if j = g then K m' j * d' else (K m' j - K m j) * dmax m j
  Nat.ble (50400 * val m + T 0 + T 1 + T 2 + T 3) (50400 * val m' + (if g < 4 then K m g * d else 0))

/-- for `d ≤ m` the integer `(k' - k) * d` is at most its value at `d = 0` or at `d = m`; truncation picks the one -/
theorem corner (k k' : Nat) {d m : Nat} (h : d ≤ m) : k' * d ≤ (k' - k) * m + k * d := by
  rcases Nat.le_total k' k with h1 | h1
  · exact Nat.le_trans (Nat.mul_le_mul_right d h1) (Nat.le_add_left _ _)
  · calc k' * d = (k' - k) * d + k * d := by rw [← Nat.add_mul, Nat.sub_add_cancel h1]
      _ ≤ (k' - k) * m + k * d := Nat.add_le_add_right (Nat.mul_le_mul_left _ h) _

theorem sum_without (a : Nat → Nat) (g : Nat) :
    (if 0 = g then 0 else a 0) + (if 1 = g then 0 else a 1) + (if 2 = g then 0 else a 2) +
      (if 3 = g then 0 else a 3) + (if g < 4 then a g else 0) = a 0 + a 1 + a 2 + a 3 := by
  match g with
  | 0 | 1 | 2 | 3 => simp +arith
  | g + 4 => simp

theorem okStep_sound {m m' : MV} {g d d' : Nat} (h : okStep m m' g d d' = true) {δ δ' : Nat → Nat}
    (hg : g < 4 → δ g = d ∧ δ' g = d')
    (ho : ∀ j < 4, j ≠ g → δ' j = δ j ∧ δ j ≤ dmax m j) : rawN m δ ≤ rawN m' δ' := by
  have key : ∀ j < 4, K m' j * δ' j ≤
      (if j = g then K m' j * d' else (K m' j - K m j) * dmax m j) + (if j = g then 0 else K m j * δ j) := by
    intro j hj
    by_cases hjg : j = g
    · subst hjg
      rw [if_pos rfl, if_pos rfl, (hg hj).2, Nat.add_zero]
    · obtain ⟨e, b⟩ := ho j hj hjg
      rw [if_neg hjg, if_neg hjg, e]
      exact corner _ _ b
  have k0 := key 0 (by omega)
  have k1 := key 1 (by omega)
  have k2 := key 2 (by omega)
  have k3 := key 3 (by omega)
  have s := sum_without (fun j => K m j * δ j) g
  have r : (if g < 4 then K m g * δ g else 0) = if g < 4 then K m g * d else 0 := by
    by_cases hg4 : g < 4
    · rw [if_pos hg4, if_pos hg4, (hg hg4).1]
    · rw [if_neg hg4, if_neg hg4]
  simp only [okStep, Nat.ble_eq] at h
  simp only [r] at s
  unfold rawN
  -- the four `key`s; `s` restores the `g`-th term
  omega

/-- the changes of class of group `g`, in every context of the other classes: a change `c → c'` at
    distance `d` lands at distance `d + σ c − σ c' − 1` (the guards skip the `d` that are not admissible:
    it would be negative, or above `dmax c'`).  The context is a macrovector with class `(0, 0)` of
    `g`, so that `put m g c` is the same term wherever the class `c` occurs and the kernel computes its
    weights once.  Contexts without a row (EQ3 = 2, EQ6 = 0) pass trivially: `val` and all weights are 0. -/
def chk (g : Nat) : Bool := allMV fun m => !eqC (get m g) (0, 0) || (grp g).pairs.all fun (c, c') =>
  (List.range ((grp g).dmax c + 1)).all fun d =>
    decide (d + (grp g).sig c < (grp g).sig c' + 1) ||
    decide ((grp g).dmax c' < d + (grp g).sig c - (grp g).sig c' - 1) ||
    okStep (put m g c) (put m g c') g d (d + (grp g).sig c - (grp g).sig c' - 1)

/-- the steps of E (no distance) -/
def chkE : Bool := allMV fun m => decide (m.eq5 = 0) || okStep m { m with eq5 := m.eq5 - 1 } 4 0 0

theorem mono_of_chk {g : Nat} (h : chk g = true) {m : MV} (hm : InRange m) {c' : Nat × Nat}
    (hp : (get m g, c') ∈ (grp g).pairs) {δ δ' : Nat → Nat}
    (hd : δ g ≤ (grp g).dmax (get m g)) (hd' : δ' g ≤ (grp g).dmax c')
    (hs : δ g + (grp g).sig (get m g) = δ' g + (grp g).sig c' + 1)
    (ho : ∀ j < 4, j ≠ g → δ' j = δ j ∧ δ j ≤ dmax m j) :
    rawN m δ ≤ rawN (put m g c') δ' := by
  have h0 := allMV_iff.mp h _ (inRange_put_zero hm g)
  rw [get_put_zero, eqC_iff.mpr rfl] at h0
  have h1 := List.all_eq_true.mp h0 _ hp
  simp only [put_put, put_get, List.all_eq_true, List.mem_range, Bool.or_eq_true, decide_eq_true_eq] at h1
  have e : δ g + (grp g).sig (get m g) - (grp g).sig c' - 1 = δ' g := by omega
  have adm : ¬(δ g + (grp g).sig (get m g) < (grp g).sig c' + 1 ∨
      (grp g).dmax c' < δ g + (grp g).sig (get m g) - (grp g).sig c' - 1) := by omega
  have h2 := (h1 (δ g) (by omega)).resolve_left adm
  rw [e] at h2
  exact okStep_sound h2 (fun _ => ⟨rfl, rfl⟩) ho

theorem rawN_same (m : MV) {δ δ' : Nat → Nat} (h : ∀ j < 4, δ' j ≤ δ j) : rawN m δ ≤ rawN m δ' := by
  unfold rawN
  have := Nat.mul_le_mul_left (K m 0) (h 0 (by omega))
  have := Nat.mul_le_mul_left (K m 1) (h 1 (by omega))
  have := Nat.mul_le_mul_left (K m 2) (h 2 (by omega))
  have := Nat.mul_le_mul_left (K m 3) (h 3 (by omega))
  omega

theorem mono_E (h : chkE = true) {m : MV} (hm : InRange m) (h5 : m.eq5 ≠ 0) {δ : Nat → Nat}
    (ho : ∀ j < 4, δ j ≤ dmax m j) : rawN m δ ≤ rawN { m with eq5 := m.eq5 - 1 } δ := by
  have h1 := allMV_iff.mp h m hm
  simp only [Bool.or_eq_true, decide_eq_true_eq] at h1
  exact okStep_sound (h1.resolve_left h5) (fun h => absurd h (by omega)) (fun j hj _ => ⟨rfl, ho j hj⟩)

section levels
variable {a : Str → Str} (hl : LegalEff a)
include hl

theorem sdist_le {g : Nat} (hg : g < 4) : sdist a g ≤ dmax (Spec.V4.macroVector a) g := by
  rw [sdist_lvs hl hg, dmax, ← cls_lvs hl]
  exact (Grp.facts (grp_ok g hg) (lvs_inBox hl hg)).2.2.1

theorem noImpact_lv : Spec.V4.noImpact a =
    (lv a c!"VC" == 2 && (lv a c!"VI" == 2 && (lv a c!"VA" == 2 && (lv a c!"SC" == 3 &&
      (lv a c!"SI" == 3 && lv a c!"SA" == 3))))) := by
  unfold Spec.V4.noImpact
  simp only [List.all_cons, List.all_nil, Bool.and_true,
    is_lv hl c!"VC" c!"N" 2, is_lv hl c!"VI" c!"N" 2, is_lv hl c!"VA" c!"N" 2,
    is_lv hl c!"SC" c!"N" 3, is_lv hl c!"SI" c!"N" 3, is_lv hl c!"SA" c!"N" 3]

end levels

theorem raw_step {a a' : Str → Str} (hl : LegalEff a) (hl' : LegalEff a') {g : Nat} (hg : g < 4)
    (hchk : chk g = true) {k : Str} (hk : k ∈ (grp g).keys) (hstep : lv a' k + 1 = lv a k)
    (hin : ∀ i ∈ (grp g).keys, i ≠ k → lv a' i = lv a i)
    (hout : ∀ j < 4, j ≠ g → ∀ i ∈ (grp j).keys, lv a' i = lv a i)
    (h5 : (Spec.V4.macroVector a').eq5 = (Spec.V4.macroVector a).eq5) :
    rawN (Spec.V4.macroVector a) (sdist a) ≤ rawN (Spec.V4.macroVector a') (sdist a') := by
  have hls : ∀ j < 4, j ≠ g → (grp j).keys.map (lv a') = (grp j).keys.map (lv a) :=
    fun j hj hne => List.map_congr_left (hout j hj hne)
  have hget : ∀ j < 4, j ≠ g → get (Spec.V4.macroVector a') j = get (Spec.V4.macroVector a) j :=
    fun j hj hne => by rw [← cls_lvs hl', ← cls_lvs hl, hls j hj hne]
  have hdist : ∀ j < 4, j ≠ g → sdist a' j = sdist a j ∧ sdist a j ≤ dmax (Spec.V4.macroVector a) j :=
    fun j hj hne => ⟨by rw [sdist_lvs hl' hj, sdist_lvs hl hj, hls j hj hne], sdist_le hl hj⟩
  obtain ⟨-, ⟨hS, -⟩, hD, hcls⟩ := Grp.facts (grp_ok g hg) (lvs_inBox hl hg)
  obtain ⟨-, ⟨hS', -⟩, hD', -⟩ := Grp.facts (grp_ok g hg) (lvs_inBox hl' hg)
  have hb := map_mem_below hstep (grp_nodup g hg) hk hin (lvs_inBox hl' hg)
  have hsum := sum_of_mem_below hb
  have hm' : Spec.V4.macroVector a' =
      put (Spec.V4.macroVector a) g ((grp g).cls ((grp g).keys.map (lv a'))) := by
    rw [cls_lvs hl']
    exact eq_put hg hget h5
  rw [hm']
  rcases hcls _ hb with hc | hc
  · -- inside a class the distance falls by one
    rw [hc] at hS' ⊢
    rw [cls_lvs hl, put_get]
    refine rawN_same _ fun j hj => ?_
    by_cases hjg : j = g
    · subst hjg
      rw [sdist_lvs hl' hj, sdist_lvs hl hj]
      omega
    · exact (hdist j hj hjg).1.le
  · -- the class changes: one finite check per pair of classes
    rw [cls_lvs hl] at hc hS hD
    refine mono_of_chk hchk (inRange_mv a) hc ?_ ?_ ?_ hdist
    · rw [sdist_lvs hl hg]
      exact hD
    · rw [sdist_lvs hl' hg]
      exact hD'
    · rw [sdist_lvs hl hg, sdist_lvs hl' hg]
      omega

theorem raw_step_E {a a' : Str → Str} (hl : LegalEff a) (hl' : LegalEff a') (hchk : chkE = true)
    (hout : ∀ j < 4, ∀ i ∈ (grp j).keys, lv a' i = lv a i)
    (h5 : (Spec.V4.macroVector a').eq5 + 1 = (Spec.V4.macroVector a).eq5) :
    rawN (Spec.V4.macroVector a) (sdist a) ≤ rawN (Spec.V4.macroVector a') (sdist a') := by
  have hls : ∀ j < 4, (grp j).keys.map (lv a') = (grp j).keys.map (lv a) :=
    fun j hj => List.map_congr_left (hout j hj)
  have hget : ∀ j < 4, get (Spec.V4.macroVector a') j = get (Spec.V4.macroVector a) j :=
    fun j hj => by rw [← cls_lvs hl', ← cls_lvs hl, hls j hj]
  have h5' : (Spec.V4.macroVector a').eq5 = (Spec.V4.macroVector a).eq5 - 1 := by omega
  rw [eq_of_get hget, h5']
  refine le_trans (mono_E hchk (inRange_mv a) (by omega) fun j hj => sdist_le hl hj) (rawN_same _ fun j hj => ?_)
  rw [sdist_lvs hl' hj, sdist_lvs hl hj, hls j hj]

theorem roundHalfUp_eq {x : ℚ} (h : 0 ≤ x) : Spec.V4.roundHalfUp x = roundHalfUp1 x := by
  rw [roundHalfUp1, if_pos h]
  rfl

theorem round_mono {x y : ℚ} (h : x ≤ y) :
    Spec.V4.roundHalfUp (max 0 (min 10 x)) ≤ Spec.V4.roundHalfUp (max 0 (min 10 y)) := by
  rw [roundHalfUp_eq (le_max_left _ _), roundHalfUp_eq (le_max_left _ _)]
  exact roundHalfUp1_mono (max_le_max_left 0 (min_le_min_left 10 h))

theorem round_nonneg (x : ℚ) : 0 ≤ Spec.V4.roundHalfUp (max 0 x) := by
  rw [roundHalfUp_eq (le_max_left _ _)]
  exact roundHalfUp1_zero.symm.trans_le (roundHalfUp1_mono (le_max_left 0 x))

theorem score_mono_of {a a' : Str → Str} {r r' : ℤ}
    (hr : Spec.V4.rawScore a = some ((r : ℚ) / 504000))
    (hr' : Spec.V4.rawScore a' = some ((r' : ℚ) / 504000)) (hle : r ≤ r')
    (hni : Spec.V4.noImpact a' = true → Spec.V4.noImpact a = true) :
    ∀ x y, Spec.V4.score a = some x → Spec.V4.score a' = some y → x ≤ y := by
  intro x y hx hy
  unfold Spec.V4.score at hx hy
  rw [hr] at hx
  rw [hr'] at hy
  cases h' : Spec.V4.noImpact a' with
  | true =>
    rw [hni h', if_pos rfl] at hx
    rw [h', if_pos rfl] at hy
    rw [← Option.some.inj hx, ← Option.some.inj hy]
  | false =>
    rw [h', if_neg Bool.false_ne_true, Option.map_some] at hy
    rw [← Option.some.inj hy]
    cases h : Spec.V4.noImpact a with
    | true =>
      rw [h, if_pos rfl] at hx
      rw [← Option.some.inj hx]
      exact round_nonneg _
    | false =>
      rw [h, if_neg Bool.false_ne_true, Option.map_some] at hx
      rw [← Option.some.inj hx]
      exact round_mono (div_le_div_of_nonneg_right (Int.cast_le.mpr hle) (by norm_num))

end Cvss.Lemmas.V4Mono
