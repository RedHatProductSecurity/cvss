/-
  What one, two or all three of the source ties (`Props/CodeTieN*.lean`) use.  A translated method runs in
  `Py.M = Except Py.Exc`, the model in `Option` or `Except Err`: `view`, `Sim` and `Foreign` relate the two, and the
  bind rules walk a method statement by statement against the model's `do` block.  Then the loops, closures and
  methods that classes share: translator output over the tables and accessors it reads, which the text in
  `CodeN` unfolds to (by `rfl`; cvss3.py's `clean_vector` after two `req`s on `original_metrics`).
-/
import Cvss.Py
import Cvss.Lemmas.Str
import Cvss.Model.Parse
import Cvss.Model.Json
import Cvss.Model.V3
namespace Cvss.Py
open Cvss

section
variable {ε ε' α β : Type}

theorem ok_bind (a : α) (f : α → Except ε β) : (Except.ok a >>= f) = f a := rfl
theorem error_bind (e : ε) (f : α → Except ε β) : ((Except.error e : Except ε α) >>= f) = .error e := rfl
theorem pure_ok (a : α) : (pure a : Except ε α) = .ok a := rfl

theorem toOption_bind (x : Except ε α) (f : α → Except ε β) :
    (x >>= f).toOption = x.toOption.bind (fun a => (f a).toOption) := by
  cases x <;> rfl

/-- with `Option.bind_assoc`: a model `do` block with `let x ← if c then … else …` (elaborated through a join point)
    as a chain of binds -/
theorem ite_bind (c : Prop) [Decidable c] (x y : Option α) (f : α → Option β) :
    (if c then x else y).bind f = if c then x.bind f else y.bind f :=
  apply_ite (·.bind f) c x y

theorem toOption_ok (a : α) : (Except.ok a : Except ε α).toOption = some a := rfl

theorem mapError_bind (g : ε → ε') (x : Except ε α) (f : α → Except ε β) :
    (x >>= f).mapError g = x.mapError g >>= fun a => (f a).mapError g := by
  cases x <;> rfl
end

section
variable {α β : Type}

theorem toOption_req (o : Option α) : (req o).toOption = o := by
  cases o <;> rfl
theorem toOption_getitem (k : Str) (d : List (Str × β)) : (getitem k d).toOption = lookup k d := by
  unfold getitem
  cases lookup k d <;> rfl
theorem fmt2 (a b : Str) : format c!"{0}:{1}" [a, b] = a ++ ':' :: b := by
  simp [format, formatAux, fmtField]
theorem strOInt_nat (n : Nat) : strOInt (some (n : Int)) = natToStr n := rfl
/-- `str(score) + "/" + …` of `rh_vector()` -/
theorem strScore_slash (q : Rat) (c : Str) : (strScore (some q) ++ c!"/") ++ c = Model.showScore q ++ '/' :: c := by
  rw [List.append_assoc]
  rfl

/-! the translator writes the `Decimal` / float literals 0, 1, 10 as `mkRat n 1` -/
theorem q0 : mkRat 0 1 = (0 : Rat) := by decide
theorem q1 : mkRat 1 1 = (1 : Rat) := by decide
theorem q10 : mkRat 10 1 = (10 : Rat) := by decide

end

section
variable {α β γ : Type}

abbrev view (x : M α) : Except Err α := x.mapError Exc.toErr

/-- the model's `none` stands for an exception outside the hierarchy -/
def ofOption : Option α → Except Err α
  | some a => .ok a
  | none => .error .foreign

theorem ofOption_some (a : α) : ofOption (some a) = .ok a := rfl
theorem ofOption_map_bind (o : Option α) (f : α → Option β) (g : β → γ) :
    ofOption ((o.bind f).map g) = ofOption o >>= fun a => ofOption ((f a).map g) := by
  cases o <;> rfl

theorem view_bind (x : M α) (f : α → M β) : view (x >>= f) = view x >>= fun a => view (f a) :=
  mapError_bind _ x f
theorem view_pure (a : α) : view (pure a : M α) = .ok a := rfl
theorem view_raise (e : Exc) : view (raise e : M α) = .error e.toErr := rfl
theorem view_req (o : Option α) : view (req o) = ofOption o := by
  cases o <;> rfl
theorem view_getitem (k : Str) (d : List (Str × β)) : view (getitem k d) = ofOption (lookup k d) := by
  unfold getitem
  cases lookup k d <;> rfl
theorem view_assert (c : Prop) [Decidable c] : view (assert c) = if c then .ok () else .error .foreign := by
  unfold assert
  split <;> rfl

theorem view_getitemN_nat (n : Nat) (d : List (Nat × Nat)) :
    view (getitemN (n : Int) d) = ofOption ((lookup n d).map Int.ofNat) := by
  unfold getitemN
  rw [if_neg (by omega), Int.toNat_natCast]
  cases lookup n d <;> rfl
theorem view_getitemNN_nat (i j : Nat) (d : List ((Nat × Nat) × Nat)) :
    view (getitemNN (i : Int) (j : Int) d) = ofOption ((lookup (i, j) d).map Int.ofNat) := by
  unfold getitemNN
  rw [if_neg (by omega), Int.toNat_natCast, Int.toNat_natCast]
  cases lookup (i, j) d <;> rfl

theorem ok_of_view {x : M α} {a : α} (h : view x = .ok a) : x = .ok a := by
  cases x with
  | error e => cases h
  | ok b => exact congrArg Except.ok (Except.ok.inj h)

section
variable {ε : Type}

def Sim (R : α → β → Prop) : Except ε α → Except ε β → Prop
  | .ok a, .ok b => R a b
  | .error e, .error e' => e = e'
  | _, _ => False

theorem Sim.bind {α' β' : Type} {R : α → β → Prop} {S : α' → β' → Prop} {x : Except ε α} {y : Except ε β}
    {f : α → Except ε α'} {g : β → Except ε β'} (h : Sim R x y) (hf : ∀ a b, R a b → Sim S (f a) (g b)) :
    Sim S (x >>= f) (y >>= g) := by
  cases x with
  | error e =>
    cases y with
    | error e' => exact h
    | ok b => exact h.elim
  | ok a =>
    cases y with
    | error e' => exact h.elim
    | ok b => exact hf a b h

theorem sim_iff_map_eq {p : α → γ} {q : β → γ} {x : Except ε α} {y : Except ε β} :
    x.map p = y.map q ↔ Sim (fun a b => p a = q b) x y := by
  cases x <;> cases y <;> simp [Sim, Except.map]

theorem Sim.of_eq {x : Except ε α} : Sim (fun _ _ => True) x x := by
  cases x <;> simp [Sim]

end

section
variable {x : M α} {y : Except Err β} {f : α → γ} {g : β → γ}

theorem ok_of_ok (h : (view x).map f = y.map g) {a : α} (hx : x = .ok a) : ∃ b, y = .ok b ∧ f a = g b := by
  subst hx
  cases y with
  | error e => cases h
  | ok b => exact ⟨b, rfl, Except.ok.inj h⟩

theorem ok_of_ok' (h : (view x).map f = y.map g) {b : β} (hy : y = .ok b) : ∃ a, x = .ok a ∧ f a = g b := by
  subst hy
  cases x with
  | error e => cases h
  | ok a => exact ⟨a, rfl, Except.ok.inj h⟩

theorem accepts_iff (h : (view x).map f = y.map g) : (∃ a, x = .ok a) ↔ ∃ b, y = .ok b :=
  ⟨fun ⟨_, ha⟩ => (ok_of_ok h ha).imp fun _ hb => hb.1, fun ⟨_, hb⟩ => (ok_of_ok' h hb).imp fun _ ha => ha.1⟩

theorem raises_iff (h : (view x).map f = y.map g) (c : Err) :
    (∃ e, x = .error e ∧ e.toErr = c) ↔ y = .error c := by
  constructor
  · rintro ⟨e, rfl, rfl⟩
    cases y with
    | error e' => exact congrArg Except.error (Except.error.inj h).symm
    | ok b => cases h
  · rintro rfl
    cases x with
    | error e => exact ⟨e, rfl, Except.error.inj h⟩
    | ok a => cases h

theorem outcomes_of {δ : Type} (k : β → δ) (h : (view x).map f = y.map g)
    (hy : (∃ o, y.map k = .ok o) ∨ y.map k = .error .malformed ∨ y.map k = .error .mandatory) :
    (∃ a, x = .ok a) ∨ ∃ e, x = .error e ∧ (e.toErr = .malformed ∨ e.toErr = .mandatory) := by
  cases hc : y with
  | ok b => exact Or.inl ((accepts_iff h).2 ⟨b, hc⟩)
  | error c =>
    obtain ⟨e, he, rfl⟩ := (raises_iff h c).2 hc
    rw [hc] at hy
    refine Or.inr ⟨e, he, ?_⟩
    rcases hy with ⟨o, ho⟩ | hy | hy
    · cases ho
    · exact Or.inl (Except.error.inj hy)
    · exact Or.inr (Except.error.inj hy)
end

/-- no exception of the library's own hierarchy escapes -/
def Foreign (x : M α) : Prop := ∀ e, x = .error e → e.toErr = .foreign

theorem Foreign.pure (a : α) : Foreign (pure a : M α) := by
  intro e h
  cases h
theorem Foreign.ok (a : α) : Foreign (.ok a : M α) := Foreign.pure a
theorem Foreign.of_ok {x : M α} {a : α} (h : x = .ok a) : Foreign x := h ▸ Foreign.ok a

theorem Foreign.bind_iff (x : M α) (f : α → M β) :
    Foreign (x >>= f) ↔ Foreign x ∧ ∀ a, x = .ok a → Foreign (f a) := by
  constructor
  · intro h
    exact ⟨fun e he => h e (by rw [he]; rfl), fun a ha e he => h e (by rw [ha]; exact he)⟩
  · rintro ⟨hx, hf⟩ e h
    cases x with
    | error e' =>
      cases h
      exact hx _ rfl
    | ok a => exact hf a rfl e h

theorem Foreign.foldlM {f : β → α → M β} (hf : ∀ s a, Foreign (f s a)) (l : List α) (s : β) :
    Foreign (List.foldlM f s l) := by
  induction l generalizing s with
  | nil => exact Foreign.pure s
  | cons a rest ih =>
    rw [List.foldlM_cons, Foreign.bind_iff]
    exact ⟨hf s a, fun s' _ => ih s'⟩

theorem Foreign.mapM {f : α → M β} (hf : ∀ a, Foreign (f a)) (l : List α) : Foreign (List.mapM f l) := by
  induction l with
  | nil =>
    rw [List.mapM_nil]
    exact Foreign.pure _
  | cons a rest ih =>
    rw [List.mapM_cons, Foreign.bind_iff]
    refine ⟨hf a, fun b _ => ?_⟩
    rw [Foreign.bind_iff]
    exact ⟨ih, fun bs _ => Foreign.pure _⟩

theorem Foreign.getitem (k : Str) (d : List (Str × β)) : Foreign (getitem k d) := by
  intro e h
  unfold Py.getitem at h
  split at h <;> cases h
  rfl
theorem Foreign.getitemO (k : Option Str) (d : List (Str × β)) : Foreign (getitemO k d) := by
  cases k with
  | none =>
    intro e h
    cases h
    rfl
  | some k => exact Foreign.getitem k d
theorem Foreign.getitemN (i : Int) (d : List (Nat × Nat)) : Foreign (getitemN i d) := by
  intro e h
  unfold Py.getitemN at h
  split at h
  · cases h
    rfl
  · split at h <;> cases h
    rfl
theorem Foreign.getitemNN (i j : Int) (d : List ((Nat × Nat) × Nat)) : Foreign (getitemNN i j d) := by
  intro e h
  unfold Py.getitemNN at h
  split at h
  · cases h
    rfl
  · split at h <;> cases h
    rfl
theorem Foreign.req (o : Option α) : Foreign (req o) := by
  intro e h
  cases o <;> cases h
  rfl
theorem Foreign.bound (o : Option α) : Foreign (bound o) := by
  intro e h
  cases o <;> cases h
  rfl
theorem Foreign.finite (a : Option Rat) : Foreign (finite a) := by
  intro e h
  cases a <;> cases h
  rfl
theorem Foreign.assert (c : Prop) [Decidable c] : Foreign (assert c) := by
  intro e h
  unfold Py.assert at h
  split at h <;> cases h
  rfl
theorem Foreign.raise_other : Foreign (raise .other : M α) := by
  intro e h
  cases h
  rfl
theorem Foreign.charAt (s : Str) (i : Nat) : Foreign (charAt s i) := by
  intro e h
  unfold Py.charAt at h
  split at h <;> cases h
  rfl
theorem Foreign.int (s : Str) : Foreign (int s) := by
  intro e h
  unfold Py.int at h
  split at h <;> cases h
  rfl
theorem Foreign.div (a b : Rat) : Foreign (div a b) := by
  intro e h
  unfold Py.div at h
  split at h <;> cases h
  rfl
theorem Foreign.fdiv (a b : Option Rat) : Foreign (fdiv a b) := by
  intro e h
  unfold Py.fdiv at h
  split at h <;> cases h
  rfl

/-- `foreign [facts]` proves `Foreign x` for an unfolded `x` along its syntax; `facts` are those about the methods `x` calls -/
macro "foreign" "[" facts:Lean.Parser.Tactic.simpLemma,* "]" : tactic =>
  `(tactic| simp only [Foreign.bind_iff, apply_ite Foreign, Foreign.pure, Foreign.ok, Foreign.foldlM, Foreign.mapM,
      Foreign.getitem, Foreign.getitemO, Foreign.getitemN, Foreign.getitemNN, Foreign.req, Foreign.bound,
      Foreign.finite, Foreign.assert, Foreign.raise_other, Foreign.charAt, Foreign.int, Foreign.div, Foreign.fdiv,
      Prod.forall, implies_true, and_self, ite_self, $facts,*])

theorem view_eq_ofOption {x : M α} {o : Option α} (h : x.toOption = o) (hf : Foreign x) : view x = ofOption o := by
  subst h
  cases x with
  | ok a => rfl
  | error e => exact congrArg Except.error (hf e rfl)

theorem view_map_eq_iff {x : M α} {o : Option β} {p : α → γ} {q : β → γ} :
    (view x).map p = (ofOption o).map q ↔ x.toOption.map p = o.map q ∧ Foreign x := by
  cases x with
  | ok a =>
    cases o with
    | none =>
      constructor
      · intro h
        cases h
      · intro h
        cases h.1
    | some b =>
      exact ⟨fun h => ⟨congrArg some (Except.ok.inj h), Foreign.of_ok rfl⟩,
        fun h => congrArg Except.ok (Option.some.inj h.1)⟩
  | error e =>
    cases o with
    | none =>
      refine ⟨fun h => ⟨rfl, fun e' he => ?_⟩, fun h => congrArg Except.error (h.2 e rfl)⟩
      cases he
      exact Except.error.inj h
    | some b =>
      constructor
      · intro h
        cases h
      · intro h
        cases h.1

theorem Foreign.of_view {x : M α} {o : Option α} (h : view x = ofOption o) : Foreign x :=
  (view_map_eq_iff.1 (congrArg (Except.map id) h)).2

theorem toOption_of_view {x : M α} {o : Option α} (h : view x = ofOption o) : x.toOption = o := by
  simpa only [Option.map_id, id_eq] using (view_map_eq_iff.1 (congrArg (Except.map id) h)).1

/-! A walk along a translated method is one `refine` per statement: `refine view_bind_map (fact about the first
    statement) fun v => ?_` unifies `?x >>= ?f` with the generated text and `?o.bind ?F` with the model's `do` block
    (zeta-reducing the `have`s / `let`s, unfolding a restated piece against the text), so neither side is named or
    rewritten first.  `view_bind_opt_into` is there because `o.map id` does not unify with `o`.  Traps: a last
    statement `let self ← X; pure self` is elaborated to plain `X`, there is no bind to walk; the goal `refine` leaves
    still holds projections of structure literals, which a later `rw` or `generalize` does not see through. -/

theorem view_bind_ok {x : M α} {a : α} {f : α → M β} {r : Except Err β} (hx : x = .ok a)
    (hf : view (f a) = r) : view (x >>= f) = r := by
  rw [hx]
  exact hf

theorem view_bind_map {x : M α} {o : Option γ} {g : γ → α} {f : α → M β} {F : γ → Option β}
    (hx : view x = ofOption (o.map g)) (hf : ∀ c, view (f (g c)) = ofOption (F c)) :
    view (x >>= f) = ofOption (o.bind F) := by
  rw [view_bind, hx]
  cases o with
  | none => rfl
  | some c => exact hf c

theorem view_bind_map_into {δ : Type} {x : M α} {o : Option γ} {g : γ → α} {f : α → M β} {F : γ → Option δ}
    {h : δ → β} (hx : view x = ofOption (o.map g)) (hf : ∀ c, view (f (g c)) = ofOption ((F c).map h)) :
    view (x >>= f) = ofOption ((o.bind F).map h) := by
  rw [Option.map_bind]
  exact view_bind_map hx hf

theorem view_bind_opt_into {δ : Type} {x : M α} {o : Option α} {f : α → M β} {F : α → Option δ} {h : δ → β}
    (hx : view x = ofOption o) (hf : ∀ a, view (f a) = ofOption ((F a).map h)) :
    view (x >>= f) = ofOption ((o.bind F).map h) :=
  view_bind_map_into (g := id) (by rw [Option.map_id]; exact hx) hf

theorem toOption_bind_map {ε δ : Type} {x : Except ε α} {o : Option γ} {g : γ → α} {f : α → Except ε β}
    {F : γ → Option δ} {h : δ → β} (hx : x.toOption = o.map g) (hf : ∀ c, (f (g c)).toOption = (F c).map h) :
    (x >>= f).toOption = (o.bind F).map h := by
  rw [toOption_bind, hx]
  cases o with
  | none => rfl
  | some c => exact hf c

/-! The same for outcomes related by `S`, and for a model side `(o.bind G').bind K` whose first part is itself the
    chain that the fact `hx` speaks of: enter with `Sim.view_bind`, go down the chain with `Sim.bind_bind`, end it with
    `Sim.bind_map` (`Sim.view_bind_map`: a chain of one). -/
section
variable {δ δ' : Type} {S : β → δ → Prop}

theorem Sim.view_bind {x : M α} {ox : Option α} {f : α → M β} {r : Except Err δ}
    (hx : view x = ofOption ox) (hf : Sim S (ofOption ox >>= fun a => view (f a)) r) :
    Sim S (view (x >>= f)) r := by
  rw [Py.view_bind, hx]
  exact hf

theorem Sim.view_last {x : M β} {ox : Option β} {r : Except Err δ}
    (hx : view x = ofOption ox) (hf : Sim S (ofOption ox >>= fun a => Except.ok a) r) : Sim S (view x) r := by
  rw [hx]
  cases ox <;> exact hf

theorem Sim.bind_bind {o : Option γ} {G : γ → Option α} {k : α → Except Err β} {G' : γ → Option δ'}
    {K : δ' → Option δ} (h : ∀ c, Sim S (ofOption (G c) >>= k) (ofOption ((G' c).bind K))) :
    Sim S (ofOption (o.bind G) >>= k) (ofOption ((o.bind G').bind K)) := by
  cases o with
  | none => rfl
  | some c => exact h c

theorem Sim.bind_map {o : Option γ} {g : γ → α} {k : α → Except Err β} {K : γ → Option δ}
    (h : ∀ c, Sim S (k (g c)) (ofOption (K c))) : Sim S (ofOption (o.map g) >>= k) (ofOption (o.bind K)) := by
  cases o with
  | none => rfl
  | some c => exact h c

theorem Sim.view_bind_map {x : M α} {o : Option γ} {g : γ → α} {f : α → M β} {F : γ → Option δ}
    (hx : view x = ofOption (o.map g)) (hf : ∀ c, Sim S (view (f (g c))) (ofOption (F c))) :
    Sim S (view (x >>= f)) (ofOption (o.bind F)) :=
  Sim.view_bind hx (Sim.bind_map hf)

end

end

/-- the loop body of `check_mandatory` -/
def mandBody (m : List (Str × Str)) : List Str → Str → M (List Str) :=
  fun (st : (List Str)) (mandatory_metric : Str) => (do
    let missing := st
    let missing ← (if (¬ (Py.contains mandatory_metric m = true)) then (do
        let missing : List Str := missing ++ [mandatory_metric]
        pure missing) else (do
        pure missing))
    pure missing)

theorem mand_fold (m : List (Str × Str)) (l : List Str) (acc : List Str) :
    List.foldlM (mandBody m) acc l = .ok (acc ++ l.filter (fun k => !hasKey k m)) := by
  induction l generalizing acc with
  | nil => simp [List.foldlM, pure_ok]
  | cons k l ih =>
    rw [List.foldlM_cons]
    by_cases hk : hasKey k m = true <;> simp [mandBody, hk, ih, pure_ok, ok_bind]

theorem check_mandatory_view (T : Model.Tables) (m : List (Str × Str)) :
    view (List.foldlM (mandBody m) [] T.mandatory >>= fun missing =>
      (if missing ≠ [] then raise .mandatory else pure ()) >>= fun () => pure ()) =
      Model.checkMandatory T m := by
  have hnil : T.mandatory.filter (fun k => !hasKey k m) = [] ↔ T.mandatory.all (fun k => hasKey k m) = true := by
    simp [List.filter_eq_nil_iff, List.all_eq_true]
  rw [mand_fold, ok_bind, List.nil_append, Model.checkMandatory]
  by_cases h : T.mandatory.all (fun k => hasKey k m) = true
  · rw [if_pos h, if_neg (fun hn => hn (hnil.2 h))]
    rfl
  · rw [if_neg h, if_pos (fun h' => h (hnil.1 h'))]
    rfl

/-- the loop body of `clean_vector` (`nd`: the version's Not Defined token) -/
def cleanBody (m : List (Str × Str)) (nd : Str) : List Str → Str → M (List Str) :=
  fun (st : (List Str)) (metric : Str) => (do
      let vector := st
      let vector ← (if (Py.contains metric m = true) then (do
          let t1 ← Py.getitem metric m
          let value_ : Str := t1
          let vector ← (if (¬ (value_ = nd)) then (do
              let vector : List Str := vector ++ [(Py.format c!"{0}:{1}" [metric, value_])]
              pure vector) else (do
              pure vector))
          pure vector) else (do
          pure vector))
      pure vector)

/-- what one iteration of `cleanBody` appends (the models' `cleanOf` have this lambda inline) -/
def cleanF (m : List (Str × Str)) (nd : Str) : Str → Option Str :=
  fun k =>
    match lookup k m with
    | some v => if v ≠ nd then some (k ++ ':' :: v) else none
    | none => none

theorem clean_fold (m : List (Str × Str)) (nd : Str) (l : List Str) (acc : List Str) :
    List.foldlM (cleanBody m nd) acc l = .ok (acc ++ l.filterMap (cleanF m nd)) := by
  induction l generalizing acc with
  | nil => simp [List.foldlM, pure_ok]
  | cons k l ih =>
    rw [List.foldlM_cons]
    cases h : lookup k m with
    | none => simp [cleanBody, cleanF, hasKey, h, ih, pure_ok, ok_bind]
    | some v =>
      by_cases hv : v = nd <;>
        simp [cleanBody, cleanF, hasKey, getitem, h, hv, ih, fmt2, pure_ok, ok_bind]

theorem clean_loop (m : List (Str × Str)) (nd : Str) (l : List Str) :
    List.foldlM (cleanBody m nd) [] l = .ok (l.filterMap (cleanF m nd)) :=
  clean_fold m nd l []

/-! The object is any `σ` with its metric dict read by `get` and replaced by `set` (for the three `Self` structures
    the laws `h1 h2 h3` hold by `rfl`). -/
section
variable {σ : Type} (get : σ → Model.MMap) (set : σ → Model.MMap → σ)

theorem parseFields_view (T : Model.Tables) (body : σ → Str → M σ)
    (h1 : ∀ s m, get (set s m) = m) (h2 : ∀ s m, set (set s m) = set s) (h3 : ∀ s, set s (get s) = s)
    (hstep : ∀ st f, view (body st f) = (Model.parseField T (get st) f).map (set st)) (fs : List Str) :
    ∀ st, view (List.foldlM body st fs) = (Model.parseFields T (get st) fs).map (set st) := by
  induction fs with
  | nil =>
    intro st
    exact congrArg Except.ok (h3 st).symm
  | cons f fs ih =>
    intro st
    rw [List.foldlM_cons, view, mapError_bind, ← view, hstep, Model.parseFields]
    cases Model.parseField T (get st) f with
    | error e => rfl
    | ok m =>
      have := ih (set st m)
      rwa [h1, h2] at this

/-- the loop body of `parse_vector` in cvss2.py and cvss3.py -/
def parseBody {β γ : Type} (abbrs : List (Str × γ)) (values : List (Str × List (Str × β))) : σ → Str → M σ :=
  fun (st : σ) (field : Str) => (do
    let self := st
    let () ← (if (field = c!"") then (do
        Py.raise .malformed) else (do
        pure ()))
    let (metric, value_) ← Py.tryExcept (do
        let (metric, value_) ← Py.unpack2 (splitOn ':' field)
        pure (metric, value_)) .valueError (do
        Py.raise .malformed)
    let self ← (if (Py.contains metric abbrs = true) then (do
        let t1 ← Py.getitem metric values
        let self ← (if (Py.contains value_ t1 = true) then (do
            let () ← (if (Py.contains metric (get self) = true) then (do
                Py.raise .malformed) else (do
                pure ()))
            let self : σ := set self (Py.setitem metric value_ (get self))
            pure self) else (do
            Py.raise .malformed))
        pure self) else (do
        Py.raise .malformed))
    pure self)

theorem parseBody_view {β γ : Type} (abbrs : List (Str × γ)) (values : List (Str × List (Str × β)))
    (T : Model.Tables) (hA : T.abbrs = keys abbrs) (hL : ∀ k, lookup k T.legal = (lookup k values).map keys)
    (hV : T.v4style = false) (st : σ) (field : Str) :
    view (parseBody get set abbrs values st field) = (Model.parseField T (get st) field).map (set st) := by
  unfold parseBody Model.parseField
  by_cases hf : field = []
  · simp [hf, Py.raise, error_bind, Except.mapError, Except.map, Py.Exc.toErr]
  · simp only [hf, if_false, pure_ok, ok_bind]
    rcases splitOn ':' field with _ | ⟨a, _ | ⟨b, _ | ⟨c, r⟩⟩⟩
    · rfl
    · rfl
    · simp only [Py.unpack2, Py.tryExcept, ok_bind, Py.contains, Py.setitem, hA, hL, hV,
        ← hasKey_iff_mem_keys, Bool.false_eq_true, if_false]
      by_cases hm : hasKey a abbrs = true
      · simp only [hm, if_true, Py.getitem]
        cases lookup a values with
        | none => rfl
        | some row =>
          simp only [Option.map_some, ok_bind, ← hasKey_iff_mem_keys]
          by_cases hv : hasKey b row = true
          · simp only [hv, if_true]
            by_cases hd : hasKey a (get st) = true
            · simp only [hd, if_true]
              rfl
            · have hd' : hasKey a (get st) = false := by simpa using hd
              simp only [hd', Bool.false_eq_true, if_false, insert_of_hasKey_false _ _ _ hd']
              rfl
          · simp only [hv]
            rfl
      · simp only [hm]
        rfl
    · rfl

/-- the loop body of `add_missing_optional` in cvss3.py and of its first loop in cvss4.py (the same text) -/
def amoBody : σ → Str → M σ :=
  fun (st : σ) (abbreviation : Str) => (do
    let self := st
    let b2 ← (do
        if (¬ (Py.contains abbreviation (get self) = true)) then pure true else (do
            let t1 ← Py.getitem abbreviation (get self)
            pure (decide (t1 = c!"X"))))
    let self ← (if (b2 = true) then (do
        let t3 ← Py.getitem (List.drop 1 abbreviation) (get self)
        let self : σ := set self (Py.setitem abbreviation t3 (get self))
        pure self) else (do
        pure self))
    pure self)

theorem amo_fold (h1 : ∀ s m, get (set s m) = m) (h2 : ∀ s m, set (set s m) = set s) (h3 : ∀ s, set s (get s) = s)
    (l : List Str) : ∀ st : σ,
    (List.foldlM (amoBody get set) st l).toOption =
      (Model.V3.addMissingOptional (get st) l).map (set st) := by
  induction l with
  | nil =>
    intro st
    exact congrArg some (h3 st).symm
  | cons a rest ih =>
    intro st
    rw [List.foldlM_cons, toOption_bind]
    simp only [amoBody, toOption_bind, apply_ite Except.toOption, pure_ok, toOption_ok, toOption_getitem]
    cases h : lookup a (get st) with
    | none =>
      cases h' : lookup (List.tail a) (get st) with
      | none => simp [Model.V3.addMissingOptional, hasKey, Py.setitem, List.drop_one, h, h']
      | some b => simp [Model.V3.addMissingOptional, hasKey, Py.setitem, List.drop_one, h, h', ih, h1, h2]
    | some v =>
      by_cases hv : v = c!"X"
      · cases h' : lookup (List.tail a) (get st) with
        | none => simp [Model.V3.addMissingOptional, hasKey, Py.setitem, Model.V3.X, List.drop_one, h, h', hv]
        | some b => simp [Model.V3.addMissingOptional, hasKey, Py.setitem, Model.V3.X, List.drop_one, h, h', hv, ih, h1, h2]
      · simp [Model.V3.addMissingOptional, hasKey, Py.setitem, Model.V3.X, h, hv, ih]

end

/-! `j` embeds the model's JSON values into the translation's (which also has `null`): each file's `jOf`. -/
section
variable (j : Model.JVal → J)

def jmap (d : Model.JObj) : List (Str × J) := d.map (fun kv => (kv.1, j kv.2))

theorem insert_jmap (k : Str) (v : Model.JVal) (d : Model.JObj) :
    insert k (j v) (jmap j d) = jmap j (insert k v d) := by
  induction d with
  | nil => rfl
  | cons p l ih =>
    obtain ⟨a, b⟩ := p
    simp only [jmap, List.map_cons, insert] at ih ⊢
    by_cases hk : k = a <;> simp [hk, ih]

theorem strLt_eq (a b : Str) : strLt a b = Model.strLt a b := by
  induction a generalizing b with
  | nil => cases b <;> rfl
  | cons x xs ih =>
    cases b with
    | nil => rfl
    | cons y ys => simp only [strLt, Model.strLt, ih]

theorem insertSorted_jmap (kv : Str × Model.JVal) (d : Model.JObj) :
    insertSorted (kv.1, j kv.2) (jmap j d) = jmap j (Model.insertSorted kv d) := by
  induction d with
  | nil => rfl
  | cons p r ih =>
    simp only [jmap, List.map_cons, insertSorted, Model.insertSorted, strLt_eq] at ih ⊢
    by_cases hk : Model.strLt kv.1 p.1 = true <;> simp [hk, ih]

theorem sortedItems_jmap (d : Model.JObj) : sortedItems (jmap j d) = jmap j (Model.sortObj d) :=
  List.foldl_map.trans (List.foldl_hom (jmap j) (init := []) fun acc p => insertSorted_jmap j p acc)

theorem addMetrics_fold (body : List (Str × J) → Str → M (List (Str × J))) (jsonKeys : List (Str × Str))
    (descr : Str → Option Str) (usf : Str → Str)
    (hstep : ∀ d m, (body (jmap j d) m).toOption =
      (lookup m jsonKeys).bind fun k => (descr m).bind fun ds => some (jmap j (insert k (.str (usf ds)) d)))
    (l : List Str) : ∀ d : Model.JObj,
    (List.foldlM body (jmap j d) l).toOption = (Model.addMetrics jsonKeys descr usf d l).map (jmap j) := by
  induction l with
  | nil =>
    intro d
    rfl
  | cons m l ih =>
    intro d
    rw [List.foldlM_cons, toOption_bind, hstep, Model.addMetrics]
    cases lookup m jsonKeys with
    | none => rfl
    | some k =>
      cases descr m with
      | none => rfl
      | some ds => exact ih _

/-- the closure `us` of `as_json` in cvss3.py and cvss4.py (the same text) -/
def usM (text : Str) : M Str := (do
    if (text = c!"Adjacent") then (do
        pure c!"ADJACENT_NETWORK") else (do
        pure (replaceChar ' ' '_' (replaceChar '-' '_' (Py.upper text)))))

theorem usM_eq (t : Str) : usM t = .ok (Model.us3 t) := by
  unfold usM Model.us3 Model.us2
  split <;> rfl

/-- the body of the loops of `as_json` (the nested `add_metric_to_data`), over the class's table of JSON keys, its
    `get_value_description` and its closure `us` -/
def jsonBody (jsonKeys : List (Str × Str)) (descr : Str → M Str) (us : Str → M Str) :
    List (Str × J) → Str → M (List (Str × J)) :=
  fun (st : (List (Str × J))) (metric : Str) => (do
    let data := st
    let add_metric_to_data : List (Str × J) → Str → M (List (Str × J)) := fun data metric => (do
        let t2 ← Py.getitem metric jsonKeys
        let k : Str := t2
        let t3 ← descr metric
        let t4 ← us t3
        let data : List (Str × J) := Py.setitem k (J.str t4) data
        pure data)
    let data ← add_metric_to_data data metric
    pure data)

theorem jsonBody_fold (hj : ∀ s, j (.str s) = .str s) {jsonKeys : List (Str × Str)}
    {descr : Str → M Str} {us : Str → M Str} {mdescr : Str → Option Str} {usf : Str → Str}
    (hd : ∀ m, (descr m).toOption = mdescr m) (hus : ∀ t, us t = .ok (usf t)) (l : List Str) (d : Model.JObj) :
    (List.foldlM (jsonBody jsonKeys descr us) (jmap j d) l).toOption =
      (Model.addMetrics jsonKeys mdescr usf d l).map (jmap j) := by
  refine addMetrics_fold j _ _ _ _ (fun d m => ?_) l d
  unfold jsonBody
  simp only [toOption_bind, toOption_getitem, hd, hus, toOption_ok, pure_ok, Py.setitem]
  cases lookup m jsonKeys with
  | none => rfl
  | some k =>
    cases mdescr m with
    | none => rfl
    | some ds => simp only [Option.bind_some, ← hj, insert_jmap]

end

section
variable {σ τ O : Type}

/-- `from_rh_vector` of the three classes, over the class's constructor and its `scores()` (whose first entry, seen
    through `w`, is compared with the number in front) -/
def fromRh (construct : Str → M σ) (scores : σ → M (List τ)) (w : τ → Option Rat) (vector : Str) : M σ := do
  let (score, base_vector) ← Py.tryExcept (do
      let (score, base_vector) ← Py.unpack2 (Py.split1 '/' vector)
      pure (score, base_vector)) .valueError (do
      Py.raise .rhMalformed)
  let score_value ← Py.tryExcept (do
      let t1 ← Py.float score
      let score_value : Py.FVal := t1
      pure score_value) .valueError (do
      Py.raise .rhMalformed)
  let o2 ← construct base_vector
  let cvss_object : σ := o2
  let t3 ← scores cvss_object
  let t4 ← Py.listAt t3 0
  if (Py.scoreEq (w t4) score_value = true) then (do
      pure cvss_object) else (do
      Py.raise .rhMismatch)

/-- the model's `fromRh` over one version's constructor, before the object is wrapped into `AnyObj` -/
def rhSpecOf (mconstruct : Str → Except Err O) (base : O → Rat) (text : Str) : Except Err O :=
  match splitFirst '/' text with
  | none => .error .rhMalformed
  | some (score, baseVector) =>
    match Model.Float.parseFloat score with
    | none => .error .rhMalformed
    | some fv =>
      match mconstruct baseVector with
      | .error e => .error e
      | .ok o => if Model.Float.eqScore (base o) fv then .ok o else .error .rhMismatch

theorem fromRh_sim {R : σ → O → Prop} {construct : Str → M σ} {scores : σ → M (List τ)} {w : τ → Option Rat}
    {mconstruct : Str → Except Err O} {base : O → Rat}
    (hc : ∀ b, Sim R (view (construct b)) (mconstruct b))
    (hs : ∀ x o, R x o → ∃ t rest, scores x = .ok (t :: rest) ∧ w t = some (base o)) (text : Str) :
    Sim R (view (fromRh construct scores w text)) (rhSpecOf mconstruct base text) := by
  unfold fromRh rhSpecOf
  cases hsp : splitFirst '/' text with
  | none =>
    simp only [split1, hsp, unpack2]
    rfl
  | some p =>
    obtain ⟨score, bv⟩ := p
    simp only [split1, hsp, unpack2, tryExcept, ok_bind, pure_ok]
    cases hf : Model.Float.parseFloat score with
    | none =>
      simp only [float, hf]
      rfl
    | some fv =>
      simp only [float, hf, ok_bind]
      have hm : (match mconstruct bv with
          | .error e => .error e
          | .ok o => if Model.Float.eqScore (base o) fv = true then .ok o else .error .rhMismatch) =
          mconstruct bv >>= fun o => if Model.Float.eqScore (base o) fv = true then .ok o else .error .rhMismatch := by
        cases mconstruct bv <;> rfl
      rw [hm, view_bind]
      refine Sim.bind (hc bv) ?_
      intro x o hxo
      obtain ⟨t, rest, hsc, hw⟩ := hs x o hxo
      simp only [hsc, ok_bind, listAt, List.getElem?_cons_zero, hw, scoreEq]
      by_cases he : Model.Float.eqScore (base o) fv = true
      · simp only [he, if_true]
        exact hxo
      · simp only [he]
        rfl

theorem rhSpecOf_map (v : Model.Ver) (mconstruct : Str → Except Err O) (base : O → Rat) (k : O → Model.AnyObj)
    (hk : ∀ o, (k o).base = base o) (hc : ∀ b, Model.construct v b = (mconstruct b).map k) (text : Str) :
    (rhSpecOf mconstruct base text).map k = Model.fromRh v text := by
  unfold rhSpecOf Model.fromRh
  cases splitFirst '/' text with
  | none => rfl
  | some p =>
    obtain ⟨score, bv⟩ := p
    simp only []
    cases Model.Float.parseFloat score with
    | none => rfl
    | some fv =>
      simp only [hc]
      cases mconstruct bv with
      | error e => rfl
      | ok o =>
        simp only [Except.map, hk]
        cases Model.Float.eqScore (base o) fv <;> rfl

end

end Cvss.Py
