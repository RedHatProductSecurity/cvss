/-
  The v3 specification's tables and equations in the form the proofs use: every weight lies between 0 and a
  bound for its row (`wmax`); the sub-scores as functions of weights (`issOf`, `missOf`, `explOf`); the base
  and the environmental score written with `Num3.shape` over them.
-/
import Cvss.Spec.V3
import Cvss.Lemmas.Num3
import Cvss.Lemmas.Str
namespace Cvss.Lemmas.Spec3
open Cvss Cvss.Spec.V3 Cvss.Lemmas.Num Cvss.Lemmas.Num3

def wmax (m : Str) : ℚ :=
  if m ∈ [c!"C", c!"I", c!"A"] then 56 / 100 else if m ∈ [c!"CR", c!"IR", c!"AR"] then 3 / 2 else 1

theorem weights_range : ∀ p ∈ weights, ∀ q ∈ p.2, 0 ≤ q.2 ∧ q.2 ≤ wmax p.1 := by decide +kernel

theorem w_nonneg (m v : Str) : 0 ≤ w m v :=
  w_cases_of _ (0 ≤ ·) le_rfl m v fun _ _ h1 h2 => (weights_range _ h1 _ h2).1

theorem w_le (m v : Str) : w m v ≤ wmax m :=
  w_cases_of _ (· ≤ wmax m) (by unfold wmax; split_ifs <;> norm_num) m v
    fun _ _ h1 h2 => (weights_range _ h1 _ h2).2

theorem w_le_one {m : Str} (hm : m ∉ [c!"CR", c!"IR", c!"AR"]) (v : Str) : w m v ≤ 1 := by
  refine (w_le m v).trans ?_
  unfold wmax
  rw [if_neg hm]
  split_ifs <;> norm_num

theorem prWeight_nonneg (c : Bool) (v : Str) : 0 ≤ prWeight c v := by
  unfold prWeight
  split_ifs <;> norm_num [r, Rat.mkRat_eq_div]

theorem temporalFactor_range (a : Str → Str) : 0 ≤ temporalFactor a ∧ temporalFactor a ≤ 1 :=
  ⟨mul_nonneg (mul_nonneg (w_nonneg _ _) (w_nonneg _ _)) (w_nonneg _ _),
    mul_le_one₀ (mul_le_one₀ (w_le c!"E" _) (w_nonneg _ _) (w_le c!"RL" _)) (w_nonneg _ _)
      (w_le c!"RC" _)⟩

theorem temporalFactor_mono {a a' : Str → Str} (h : ∀ m, w m (a m) ≤ w m (a' m)) :
    temporalFactor a ≤ temporalFactor a' :=
  mul3_mono (w_nonneg _ _) (w_nonneg _ _) (w_nonneg _ _) (h _) (h _) (h _)

def issOf (c i a : ℚ) : ℚ := 1 - (1 - c) * (1 - i) * (1 - a)

def missOf (pc pi pa : ℚ) : ℚ := min (issOf pc pi pa) (r 915 1000)

def explOf (av ac pr ui : ℚ) : ℚ := r 822 100 * av * ac * pr * ui

/-- the base impact IS the v3.0 formula, so every sweep runs on `modifiedImpact` -/
theorem impact_eq (c : Bool) (v : ℚ) : impact c v = modifiedImpact 0 c v := by
  cases c <;> rfl

/-- v3.1 is every minor ≠ 0 -/
theorem modifiedImpact_minor {minor : Nat} (hm : minor ≠ 0) (c : Bool) (v : ℚ) :
    modifiedImpact minor c v = modifiedImpact 1 c v := by
  simp [modifiedImpact, hm]

theorem modifiedImpact_false_mono {minor : Nat} {v v' : ℚ} (h : v ≤ v') :
    modifiedImpact minor false v ≤ modifiedImpact minor false v' :=
  mul_le_mul_of_nonneg_left h (Rat.mkRat_nonneg (by decide) _)

theorem missOf_mono {pc pi pa pc' pi' pa' : ℚ} (hc : pc ≤ pc') (hc1 : pc' ≤ 1) (hi : pi ≤ pi')
    (hi1 : pi' ≤ 1) (ha : pa ≤ pa') (ha1 : pa' ≤ 1) : missOf pc pi pa ≤ missOf pc' pi' pa' :=
  min_le_min (one_sub_prod_mono hc hc1 hi hi1 ha ha1) le_rfl

theorem explOf_nonneg {av ac pr ui : ℚ} (h1 : 0 ≤ av) (h2 : 0 ≤ ac) (h3 : 0 ≤ pr) (h4 : 0 ≤ ui) :
    0 ≤ explOf av ac pr ui :=
  mul_nonneg (mul_nonneg (mul_nonneg (mul_nonneg (Rat.mkRat_nonneg (by decide) _) h1) h2) h3) h4

theorem explOf_mono {av ac pr ui av' ac' pr' ui' : ℚ} (n1 : 0 ≤ av) (n2 : 0 ≤ ac) (n3 : 0 ≤ pr)
    (n4 : 0 ≤ ui) (h1 : av ≤ av') (h2 : ac ≤ ac') (h3 : pr ≤ pr') (h4 : ui ≤ ui') :
    explOf av ac pr ui ≤ explOf av' ac' pr' ui' := by
  have h8 : (0 : ℚ) ≤ r 822 100 := Rat.mkRat_nonneg (by decide) _
  have p1 := mul_nonneg h8 (n1.trans h1)
  have p2 := mul_nonneg p1 (n2.trans h2)
  have p3 := mul_nonneg p2 (n3.trans h3)
  exact mul_le_mul (mul_le_mul (mul_le_mul (mul_le_mul_of_nonneg_left h1 h8) h2 n2 p1) h3 n3 p2)
    h4 n4 p3

/-- this and `env_eq_shape`: after unfolding through the `let`s the two sides are those of `shape_of_ite` /
    `roundup_shape_of_ite` -/
theorem baseScore_eq_shape (a : Str → Str) :
    baseScore a = shape (kS (decide (a c!"S" = c!"C")))
      (impact (decide (a c!"S" = c!"C"))
        (issOf (w c!"C" (a c!"C")) (w c!"I" (a c!"I")) (w c!"A" (a c!"A"))))
      (explOf (w c!"AV" (a c!"AV")) (w c!"AC" (a c!"AC"))
        (prWeight (decide (a c!"S" = c!"C")) (a c!"PR")) (w c!"UI" (a c!"UI"))) :=
  shape_of_ite _ _ _

theorem env_eq_shape (minor : Nat) (a : Str → Str) :
    environmentalScore minor a =
      roundup (shape (kS (decide (eff a c!"MS" c!"S" = c!"C")))
        (modifiedImpact minor (decide (eff a c!"MS" c!"S" = c!"C"))
          (missOf (w c!"C" (eff a c!"MC" c!"C") * w c!"CR" (a c!"CR"))
            (w c!"I" (eff a c!"MI" c!"I") * w c!"IR" (a c!"IR"))
            (w c!"A" (eff a c!"MA" c!"A") * w c!"AR" (a c!"AR"))))
        (explOf (w c!"AV" (eff a c!"MAV" c!"AV")) (w c!"AC" (eff a c!"MAC" c!"AC"))
          (prWeight (decide (eff a c!"MS" c!"S" = c!"C")) (eff a c!"MPR" c!"PR"))
          (w c!"UI" (eff a c!"MUI" c!"UI"))) * temporalFactor a) :=
  roundup_shape_of_ite _ _ _ _

theorem baseScore_congr {a a' : Str → Str}
    (h : ∀ m ∈ [c!"AV", c!"AC", c!"PR", c!"UI", c!"S", c!"C", c!"I", c!"A"], a m = a' m) :
    baseScore a = baseScore a' := by
  unfold baseScore
  rw [h c!"C" (by decide), h c!"I" (by decide), h c!"A" (by decide), h c!"S" (by decide),
    h c!"AV" (by decide), h c!"AC" (by decide), h c!"PR" (by decide), h c!"UI" (by decide)]

/-- the fourteen metrics the equations read under their own name.  The list must stay what
    `Mono.V3.keys ++ otherKeys` and `C06.base3 ++ weighted3` (files above this one) unfold to. -/
theorem plain_no_M : ∀ k ∈ [c!"AV", c!"AC", c!"PR", c!"UI", c!"S", c!"C", c!"I", c!"A", c!"CR", c!"IR",
    c!"AR", c!"E", c!"RL", c!"RC"], ∀ x : Str, k ≠ 'M' :: x :=
  ne_cons_of_head? (by decide +kernel)

end Cvss.Lemmas.Spec3
