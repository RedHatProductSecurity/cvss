/-
  Numeric building blocks of the v3 equations: Roundup, and the shape
  `if impact ≤ 0 then 0 else Roundup (min (k · (impact + exploitability)) 10)` that the base and the
  environmental equation share (`k` = 1 for Scope Unchanged, 1.08 for Changed).
-/
import Cvss.Basic
import Cvss.Spec.V3
import Cvss.Lemmas.Num
import Mathlib.Tactic.Linarith
import Mathlib.Tactic.NormNum
namespace Cvss.Lemmas.Num3
open Cvss Cvss.Spec.V3

theorem roundUp1_eq_roundup (x : Rat) : roundUp1 x = Spec.V3.roundup x := rfl

theorem ceil_mono : Monotone fun y : ℚ => y.ceil := fun _ _ h =>
  Rat.ceil_le_iff.2 (h.trans Rat.le_ceil)

theorem roundup_mono {x y : ℚ} (h : x ≤ y) : roundup x ≤ roundup y :=
  Num.tenths_mono ceil_mono h

theorem roundup_zero : roundup 0 = 0 := by
  unfold roundup
  have : ((0 : ℚ) * 10).ceil = 0 := by decide +kernel
  rw [this]; norm_num

theorem roundup_tenths {x : Rat} (h0 : 0 ≤ x) (h1 : x ≤ 10) :
    ∃ k : Nat, k ≤ 100 ∧ Spec.V3.roundup x = (k : Rat) / 10 :=
  Num.tenths_isScore ceil_mono (by decide +kernel) (by decide +kernel) h0 h1

theorem roundup_mul_tenths {x f : ℚ} (hx : ∃ k : Nat, k ≤ 100 ∧ x = (k : ℚ) / 10) (hf0 : 0 ≤ f)
    (hf1 : f ≤ 1) : ∃ k : Nat, k ≤ 100 ∧ roundup (x * f) = (k : ℚ) / 10 := by
  obtain ⟨x0, x1⟩ := Num.tenths_range hx
  exact roundup_tenths (mul_nonneg x0 hf0) (Num.mul_le_ten x1 hf0 hf1)

def shape (k imp e : ℚ) : ℚ := if imp ≤ 0 then 0 else roundup (min (k * (imp + e)) 10)

theorem shape_isScore {k imp e : ℚ} (hk : 0 ≤ k) (he : 0 ≤ e) :
    ∃ n : Nat, n ≤ 100 ∧ shape k imp e = (n : ℚ) / 10 := by
  unfold shape
  split_ifs with h
  · exact ⟨0, by norm_num⟩
  · exact roundup_tenths (le_min (mul_nonneg hk (by linarith)) (by norm_num)) (min_le_right _ _)

theorem shape_nonneg {k imp e : ℚ} (hk : 0 ≤ k) (he : 0 ≤ e) : 0 ≤ shape k imp e :=
  (Num.tenths_range (shape_isScore hk he)).1

/-- a non-positive impact on the left needs no comparison -/
theorem shape_mono {k k' imp imp' e e' : ℚ} (hk : 0 ≤ k) (hkk : k ≤ k') (he : 0 ≤ e) (hee : e ≤ e')
    (hi : imp ≤ 0 ∨ imp ≤ imp') : shape k imp e ≤ shape k' imp' e' := by
  by_cases h : imp ≤ 0
  · rw [shape, if_pos h]
    exact shape_nonneg (hk.trans hkk) (he.trans hee)
  · have h' : imp ≤ imp' := hi.resolve_left h
    rw [shape, shape, if_neg h, if_neg fun h0 => h (h'.trans h0)]
    exact roundup_mono (min_le_min (mul_le_mul hkk (add_le_add h' hee)
      (add_nonneg (not_le.1 h).le he) (hk.trans hkk)) le_rfl)

def kS (c : Bool) : ℚ := if c then r 108 100 else 1

theorem kS_nonneg (c : Bool) : 0 ≤ kS c := by
  cases c <;> decide +kernel

theorem kS_false_le_true : kS false ≤ kS true := by decide +kernel

/-- the base equation as the specification writes it -/
theorem shape_of_ite (c : Prop) [Decidable c] (imp e : ℚ) :
    (if imp ≤ 0 then 0 else if c then roundup (min (r 108 100 * (imp + e)) 10)
      else roundup (min (imp + e) 10)) = shape (kS (decide c)) imp e := by
  unfold shape kS
  by_cases h : c
  · rw [if_pos h, decide_eq_true h, if_pos rfl]
  · rw [if_neg h, decide_eq_false h, if_neg Bool.false_ne_true, one_mul]

/-- the environmental equation as the specification writes it (`roundup (0 * f) = 0` covers the branch
    of a non-positive impact) -/
theorem roundup_shape_of_ite (c : Prop) [Decidable c] (imp e f : ℚ) :
    (if imp ≤ 0 then 0 else if c then roundup (roundup (min (r 108 100 * (imp + e)) 10) * f)
      else roundup (roundup (min (imp + e) 10) * f)) = roundup (shape (kS (decide c)) imp e * f) := by
  rw [← shape_of_ite]
  split_ifs
  · rw [zero_mul, roundup_zero]
  · rfl
  · rfl

end Cvss.Lemmas.Num3
