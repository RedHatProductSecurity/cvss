/-
  Numeric facts for C02 (v4.0).  Why EPSILON cannot change a result: a fraction lies at least `1 / den` below the
  next integer above it, so adding less than that keeps the floor (`floor_add_small`, `roundHalfUp_eps`);
  the denominator bounds bring the interpolated score under this.
-/
import Mathlib.Tactic.Linarith
import Mathlib.Tactic.NormNum
import Mathlib.Tactic.FieldSimp
import Mathlib.Tactic.Ring
import Mathlib.Algebra.Order.Floor.Ring
import Mathlib.Data.Rat.Floor
import Mathlib.Data.Rat.Lemmas
import Cvss.Lemmas.Num
namespace Cvss.Lemmas.Num4
open Cvss Cvss.Lemmas.Num

theorem floor_add_small (y ε : ℚ) (h0 : 0 ≤ ε) (h1 : ε * y.den < 1) : ⌊y + ε⌋ = ⌊y⌋ := by
  rw [Int.floor_eq_iff]
  refine ⟨le_trans (Int.floor_le y) (le_add_of_nonneg_right h0), ?_⟩
  have hdpos : (0 : ℚ) < y.den := Nat.cast_pos.mpr y.den_pos
  -- num < (⌊y⌋ + 1) * den holds between integers, so num + 1 ≤ (⌊y⌋ + 1) * den
  have h5 : (y.num : ℚ) + 1 ≤ ((⌊y⌋ : ℚ) + 1) * (y.den : ℚ) := by
    exact_mod_cast Int.add_one_le_of_lt (Rat.num_lt_succ_floor_mul_den y)
  rw [← Rat.mul_den_eq_num] at h5
  refine lt_of_mul_lt_mul_right ?_ hdpos.le
  rw [add_mul]
  linarith

theorem roundHalfUp_eps (x δ : ℚ) (hx : 0 ≤ x) (hd : (x * 10 + 1 / 2).den < 100000)
    (h0 : 0 ≤ δ) (h1 : δ ≤ 1 / 1000000) :
    roundHalfUp1 (x + δ) = ((x * 10 + 1 / 2).floor : ℚ) / 10 := by
  unfold roundHalfUp1
  rw [if_pos (add_nonneg hx h0), rat_floor_eq, rat_floor_eq]
  have : (x + δ) * 10 + 1 / 2 = (x * 10 + 1 / 2) + δ * 10 := by ring
  rw [this, floor_add_small _ _ (mul_nonneg h0 (by norm_num))]
  have hd' : ((x * 10 + 1 / 2).den : ℚ) < 100000 := by exact_mod_cast hd
  have hdpos : (0 : ℚ) ≤ (x * 10 + 1 / 2).den := Nat.cast_nonneg _
  generalize ((x * 10 + 1 / 2).den : ℚ) = D at hd' hdpos
  have := mul_le_mul_of_nonneg_right (show δ * 10 ≤ 1 / 100000 by linarith) hdpos
  linarith

theorem den_le_of_mul_int (q : ℚ) (M : ℕ) (hM : 0 < M) (N : ℤ) (h : q * (M : ℚ) = (N : ℚ)) :
    q.den ≤ M := by
  have hMq : (M : ℚ) ≠ 0 := by exact_mod_cast hM.ne'
  have hq : q = Rat.divInt N (M : ℤ) := by
    rw [Rat.divInt_eq_div]
    push_cast
    field_simp
    exact h
  have h1 : ((Rat.divInt N (M : ℤ)).den : ℤ) ∣ (M : ℤ) := Rat.den_dvd N M
  rw [← hq] at h1
  have h2 : q.den ∣ M := by exact_mod_cast h1
  exact Nat.le_of_dvd hM h2

theorem den_clamp (x : ℚ) (B : ℕ) (hB : 2 ≤ B) (hx : (x * 10 + 1 / 2).den ≤ B) :
    (max 0 (min 10 x) * 10 + 1 / 2).den ≤ B := by
  have h0 : ((0 : ℚ) * 10 + 1 / 2).den ≤ 2 :=
    den_le_of_mul_int _ 2 (by norm_num) 1 (by norm_num)
  have h10 : ((10 : ℚ) * 10 + 1 / 2).den ≤ 2 :=
    den_le_of_mul_int _ 2 (by norm_num) 201 (by norm_num)
  rcases max_cases (0 : ℚ) (min 10 x) with ⟨h, _⟩ | ⟨h, _⟩
  · rw [h]; omega
  · rw [h]
    rcases min_cases (10 : ℚ) x with ⟨h', _⟩ | ⟨h', _⟩
    · rw [h']; omega
    · rw [h']; exact hx

theorem round_range (y : ℚ) (h0 : 0 ≤ y) (h10 : y ≤ 10) :
    ∃ k : ℕ, k ≤ 100 ∧ (((y * 10 + 1 / 2).floor : ℤ) : ℚ) / 10 = (k : ℚ) / 10 := by
  obtain ⟨k, hk, h⟩ := isScore_max_round1 y h10
  refine ⟨k, hk, ?_⟩
  rw [← h, roundHalfUp1, if_pos h0, max_eq_right]
  rw [rat_floor_eq]
  exact div_nonneg (Int.cast_nonneg (Int.floor_nonneg.2 (by linarith))) (by norm_num)

end Cvss.Lemmas.Num4
