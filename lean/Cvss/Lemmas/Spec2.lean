/-
  The v2 guide's tables and equations: every weight lies between 0 and a bound for its row (`wmax`), whence
  the range of the three scores for EVERY assignment (an unknown token weighs 0).
-/
import Mathlib.Tactic.Linarith
import Mathlib.Tactic.NormNum
import Cvss.Lemmas.Num
import Cvss.Spec.V2
namespace Cvss.Lemmas.Spec2
open Cvss Cvss.Lemmas.Num

def wmax (m : Str) : ℚ :=
  if m ∈ [c!"C", c!"I", c!"A"] then 66 / 100 else if m = c!"AC" then 71 / 100
  else if m = c!"Au" then 704 / 1000 else if m ∈ [c!"CR", c!"IR", c!"AR"] then 151 / 100 else 1

theorem weights_range : ∀ p ∈ Spec.V2.weights, ∀ q ∈ p.2, 0 ≤ q.2 ∧ q.2 ≤ wmax p.1 := by
  decide +kernel

theorem w_nonneg (m v : Str) : 0 ≤ Spec.V2.w m v :=
  w_cases_of _ (0 ≤ ·) le_rfl m v fun _ _ h1 h2 => (weights_range _ h1 _ h2).1

/-- for a literal metric name `wmax` unfolds to its number: `w_le c!"C" v` serves as `w c!"C" v ≤ 66 / 100` -/
theorem w_le (m v : Str) : Spec.V2.w m v ≤ wmax m :=
  w_cases_of _ (· ≤ wmax m) (by unfold wmax; split_ifs <;> norm_num) m v
    fun _ _ h1 h2 => (weights_range _ h1 _ h2).2

theorem w_le_one {m : Str} (hm : m ∉ [c!"CR", c!"IR", c!"AR"]) (v : Str) : Spec.V2.w m v ≤ 1 := by
  refine (w_le m v).trans ?_
  unfold wmax
  rw [if_neg hm]
  split_ifs <;> norm_num

section bounds
variable (a : Str → Str)

/-! `impact_le`, `exploitability_le` compare with `wmax` left unevaluated; what remains, as in `baseRaw_le`,
    is a comparison of closed numbers, evaluated by the kernel. -/

/-- impact ≤ 10.41·(1 − 0.34³) = 10.00084536 -/
theorem impact_le : Spec.V2.impact a ≤ 10001 / 1000 :=
  (mul_le_mul_of_nonneg_left
    (one_sub_prod_mono (w_le c!"C" _) (by decide +kernel) (w_le c!"I" _) (by decide +kernel)
      (w_le c!"A" _) (by decide +kernel))
    (Rat.mkRat_nonneg (by decide) _)).trans (by decide +kernel)

/-- exploitability ≤ 20 · 1 · 0.71 · 0.704 = 9.9968 -/
theorem exploitability_le : Spec.V2.exploitability a ≤ 99968 / 10000 :=
  (mul3_mono (mul_nonneg (by norm_num) (w_nonneg _ _)) (w_nonneg _ _) (w_nonneg _ _)
    (mul_le_mul_of_nonneg_left (w_le c!"AV" _) (by norm_num)) (w_le c!"AC" _)
    (w_le c!"Au" _)).trans (by decide +kernel)

/-- (0.6 · 10.001 + 0.4 · 9.9968 − 1.5) · 1.176 = 9.99520032 -/
theorem baseRaw_le (imp : ℚ) (himp : imp ≤ 10001 / 1000) :
    ((Spec.V2.r 6 10 * imp) + (Spec.V2.r 4 10 * Spec.V2.exploitability a) - Spec.V2.r 15 10)
      * Spec.V2.f imp ≤ 10 := by
  unfold Spec.V2.f
  split
  · rw [mul_zero]
    norm_num
  · have h1 := mul_le_mul_of_nonneg_left himp (Rat.mkRat_nonneg (by decide) _ : 0 ≤ Spec.V2.r 6 10)
    have h2 := mul_le_mul_of_nonneg_left (exploitability_le a)
      (Rat.mkRat_nonneg (by decide) _ : 0 ≤ Spec.V2.r 4 10)
    refine (mul_le_mul_of_nonneg_right (sub_le_sub_right (add_le_add h1 h2) _)
      (Rat.mkRat_nonneg (by decide) _)).trans ?_
    decide +kernel

theorem baseEq_le (imp : ℚ) (himp : imp ≤ 10001 / 1000) : Spec.V2.baseEq a imp ≤ 10 :=
  roundHalfUp1_le_ten _ (baseRaw_le a imp himp)

theorem temporalFactor_bounds : 0 ≤ Spec.V2.temporalFactor a ∧ Spec.V2.temporalFactor a ≤ 1 := by
  unfold Spec.V2.temporalFactor
  exact ⟨mul_nonneg (mul_nonneg (w_nonneg _ _) (w_nonneg _ _)) (w_nonneg _ _),
    mul_le_one₀ (mul_le_one₀ (w_le c!"E" _) (w_nonneg _ _) (w_le c!"RL" _)) (w_nonneg _ _)
      (w_le c!"RC" _)⟩

end bounds

theorem baseScore_isScore (a : Str → Str) :
    ∃ k : Nat, k ≤ 100 ∧ Spec.V2.baseScore a = (k : ℚ) / 10 :=
  isScore_max_round1 _ (baseRaw_le a _ (impact_le a))

theorem temporalScore_isScore (a : Str → Str) {x : ℚ} (h : Spec.V2.temporalScore a = some x) :
    ∃ k : Nat, k ≤ 100 ∧ x = (k : ℚ) / 10 := by
  unfold Spec.V2.temporalScore at h
  split at h
  · cases h
    obtain ⟨t0, t1⟩ := temporalFactor_bounds a
    exact isScore_max_round1 _ (mul_le_ten (tenths_range (baseScore_isScore a)).2 t0 t1)
  · cases h

theorem environmentalScore_isScore (a : Str → Str) {x : ℚ}
    (h : Spec.V2.environmentalScore a = some x) : ∃ k : Nat, k ≤ 100 ∧ x = (k : ℚ) / 10 := by
  unfold Spec.V2.environmentalScore at h
  split at h
  · cases h
    obtain ⟨t0, t1⟩ := temporalFactor_bounds a
    have c1 : Spec.V2.wa a c!"CDP" ≤ 1 := w_le _ _
    have hadj : Spec.V2.adjustedImpact a ≤ 10001 / 1000 :=
      le_trans (min_le_left _ _) (by norm_num)
    -- the adjusted temporal score `t ≤ 10`, hence `t + (10 - t)·CDP ≤ 10`
    have hT : Spec.V2.round1 _ ≤ 10 :=
      roundHalfUp1_le_ten _ (mul_le_ten (baseEq_le a _ hadj) t0 t1)
    refine isScore_max_round1 _ (mul_le_ten ?_ (w_nonneg _ _) (w_le c!"TD" _))
    have := mul_nonneg (sub_nonneg.mpr hT) (sub_nonneg.mpr c1)
    linarith
  · cases h

end Cvss.Lemmas.Spec2
