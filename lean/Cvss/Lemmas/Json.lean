/-
  The three `as_json` are one shape, `runJson`: a header, then for each block in turn
  `if cond: (add the metrics of a group; assign some extra items)`, then the optional sort.  All keys a run can
  assign are distinct (`KeysFresh`, one closed evaluation per class), so every `data[k] = v` appends and the
  output is, as a finite map, the header plus the items of the groups switched on (`runJson_spec`).
-/
import Cvss.Model.Json
import Cvss.Lemmas.Str
namespace Cvss.Model
open Cvss

theorem strLt_iff_lt : ∀ a b : Str, strLt a b = true ↔ a < b
  | [], [] => by simp [strLt]
  | [], _ :: _ => by simp [strLt]
  | _ :: _, [] => by simp [strLt]
  | a :: as, b :: bs => by
    have e : ∀ c d : Char, c.toNat < d.toNat ↔ c < d := fun c d => Iff.rfl
    rw [List.cons_lt_cons_iff, ← strLt_iff_lt as bs, strLt]
    by_cases h1 : a < b
    · simp only [(e a b).2 h1, h1, if_true, true_or]
    · by_cases h2 : b < a
      · have : a ≠ b := fun h => by subst h; exact h1 h2
        simp only [e, h1, h2, this, if_false, if_true, false_or, false_and, Bool.false_eq_true]
      · have : a = b := Char.le_antisymm (Char.not_lt.1 h2) (Char.not_lt.1 h1)
        simp only [e, this, Char.lt_irrefl, if_false, false_or, true_and]

theorem strLt_irrefl (a : Str) : strLt a a = false :=
  Bool.eq_false_iff.2 fun h => List.lt_irrefl a ((strLt_iff_lt a a).1 h)

theorem strLt_trans (a b c : Str) (h1 : strLt a b = true) (h2 : strLt b c = true) : strLt a c = true :=
  (strLt_iff_lt a c).2 (List.lt_trans ((strLt_iff_lt a b).1 h1) ((strLt_iff_lt b c).1 h2))

theorem strLt_asymm (a b : Str) (h : strLt a b = true) : strLt b a = false :=
  Bool.eq_false_iff.2 fun h' => List.lt_asymm ((strLt_iff_lt a b).1 h) ((strLt_iff_lt b a).1 h')

theorem eq_of_not_strLt (a b : Str) (h1 : strLt a b = false) (h2 : strLt b a = false) : a = b :=
  List.le_antisymm (List.not_lt.1 fun h => by simp [(strLt_iff_lt b a).2 h] at h2)
    (List.not_lt.1 fun h => by simp [(strLt_iff_lt a b).2 h] at h1)

theorem insertSorted_perm (kv : Str × JVal) (l : JObj) : (insertSorted kv l).Perm (kv :: l) := by
  induction l with
  | nil => simp [insertSorted]
  | cons x xs ih =>
    simp only [insertSorted]
    split
    · exact List.Perm.refl _
    · exact (List.Perm.cons x ih).trans (List.Perm.swap kv x xs)

theorem foldl_insertSorted_perm (o acc : JObj) :
    (o.foldl (fun acc kv => insertSorted kv acc) acc).Perm (acc ++ o) := by
  induction o generalizing acc with
  | nil => simp
  | cons x xs ih =>
    simp only [List.foldl_cons]
    refine (ih _).trans ?_
    refine ((insertSorted_perm x acc).append_right xs).trans ?_
    simp only [List.cons_append]
    exact List.perm_middle.symm

theorem insertSorted_sorted (kv : Str × JVal) (l : JObj)
    (h : l.Pairwise (fun a b => strLt b.1 a.1 = false)) :
    (insertSorted kv l).Pairwise (fun a b => strLt b.1 a.1 = false) := by
  induction l with
  | nil => simp [insertSorted]
  | cons x xs ih =>
    rw [List.pairwise_cons] at h
    simp only [insertSorted]
    split
    · rename_i hlt
      rw [List.pairwise_cons]
      refine ⟨?_, List.pairwise_cons.2 h⟩
      intro y hy
      rcases List.mem_cons.1 hy with rfl | hy
      · exact strLt_asymm _ _ hlt
      · cases hyk : strLt y.1 kv.1 with
        | false => rfl
        | true =>
          have := strLt_trans _ _ _ hyk hlt
          rw [h.1 y hy] at this
          cases this
    · rename_i hlt
      rw [List.pairwise_cons]
      refine ⟨?_, ih h.2⟩
      intro y hy
      rcases List.mem_cons.1 ((insertSorted_perm kv xs).mem_iff.1 hy) with rfl | hy
      · simpa using hlt
      · exact h.1 y hy

theorem foldl_insertSorted_sorted (o acc : JObj)
    (h : acc.Pairwise (fun a b => strLt b.1 a.1 = false)) :
    (o.foldl (fun acc kv => insertSorted kv acc) acc).Pairwise (fun a b => strLt b.1 a.1 = false) := by
  induction o generalizing acc with
  | nil => simpa using h
  | cons x xs ih =>
    simp only [List.foldl_cons]
    exact ih _ (insertSorted_sorted x acc h)

theorem sortObj_perm' (o : JObj) : (sortObj o).Perm o := by
  simpa [sortObj] using foldl_insertSorted_perm o []

theorem sortObj_sorted' (o : JObj) : (sortObj o).Pairwise (fun a b => strLt b.1 a.1 = false) :=
  foldl_insertSorted_sorted o [] List.Pairwise.nil

def insertMany (d L : JObj) : JObj := L.foldl (fun acc kv => insert kv.1 kv.2 acc) d

theorem insertMany_nil (d : JObj) : insertMany d [] = d := rfl

theorem insertMany_cons (d : JObj) (kv : Str × JVal) (L : JObj) :
    insertMany d (kv :: L) = insertMany (insert kv.1 kv.2 d) L := rfl

theorem insertMany_append (d L₁ L₂ : JObj) :
    insertMany d (L₁ ++ L₂) = insertMany (insertMany d L₁) L₂ := by
  simp [insertMany, List.foldl_append]

theorem insert_eq_insertMany (k : Str) (v : JVal) (d : JObj) : insert k v d = insertMany d [(k, v)] := rfl

theorem insertMany_of_nodup (d L : JObj) (h : (keys (d ++ L)).Nodup) : insertMany d L = d ++ L := by
  induction L generalizing d with
  | nil => simp [insertMany]
  | cons kv L ih =>
    obtain ⟨k, v⟩ := kv
    have hk : k ∉ keys d := by
      intro hm
      rw [keys_append, List.nodup_append] at h
      exact h.2.2 k hm k (by simp [keys]) rfl
    rw [insertMany_cons, insert_of_not_mem k v d hk, ih]
    · simp
    · simpa using h

def entries (jk : List (Str × Str)) (descr : Str → Option Str) (usf : Str → Str) (ms : List Str) : JObj :=
  ms.filterMap (fun m =>
    match lookup m jk, descr m with
    | some k, some d => some (k, JVal.str (usf d))
    | _, _ => none)

theorem mem_entries {jk : List (Str × Str)} {descr : Str → Option Str} {usf : Str → Str} {ms : List Str}
    {k : Str} {v : JVal} : (k, v) ∈ entries jk descr usf ms ↔
      ∃ m ∈ ms, ∃ d, lookup m jk = some k ∧ descr m = some d ∧ v = .str (usf d) := by
  unfold entries
  rw [List.mem_filterMap]
  refine exists_congr fun m => and_congr_right fun _ => ?_
  cases lookup m jk with
  | none => simp
  | some k' =>
    cases descr m with
    | none => simp
    | some d => simp [eq_comm]

theorem addMetrics_eq_some (jk : List (Str × Str)) (descr : Str → Option Str) (usf : Str → Str)
    (ms : List Str) : ∀ data data' : JObj, addMetrics jk descr usf data ms = some data' ↔
      (∀ m ∈ ms, ∃ k d, lookup m jk = some k ∧ descr m = some d) ∧
        data' = insertMany data (entries jk descr usf ms) := by
  induction ms with
  | nil =>
    intro data data'
    rw [addMetrics, Option.some.injEq]
    exact ⟨fun h => ⟨fun _ hm => (nomatch hm), h.symm⟩, fun h => h.2.symm⟩
  | cons m rest ih =>
    intro data data'
    rw [addMetrics, List.forall_mem_cons]
    cases hk : lookup m jk with
    | none => exact ⟨nofun, fun h => nomatch h.1.1⟩
    | some k =>
      cases hd : descr m with
      | none => exact ⟨nofun, fun h => nomatch h.1.1⟩
      | some d =>
        have he : entries jk descr usf (m :: rest) = (k, .str (usf d)) :: entries jk descr usf rest := by
          simp [entries, hk, hd]
        rw [ih, he, insertMany_cons]
        exact ⟨fun h => ⟨⟨⟨k, d, rfl, rfl⟩, h.1⟩, h.2⟩, fun h => ⟨h.1.2, h.2⟩⟩

theorem keys_entries_eq (jk : List (Str × Str)) (descr : Str → Option Str) (usf : Str → Str)
    (ms : List Str) (h : ∀ m ∈ ms, ∃ k d, lookup m jk = some k ∧ descr m = some d) :
    keys (entries jk descr usf ms) = ms.filterMap (fun m => lookup m jk) := by
  induction ms with
  | nil => simp [entries, keys]
  | cons m rest ih =>
    obtain ⟨k, d, hk, hd⟩ := h m (by simp)
    have ih := ih (fun m' hm' => h m' (List.mem_cons_of_mem _ hm'))
    simp only [entries, keys, List.filterMap_cons] at ih ⊢
    simp only [hk, hd, List.map_cons, ih]

/-- a group of metrics and the extra items assigned after them -/
abbrev Group := List Str × JObj
abbrev Block := Bool × Group

/-- the final `if sort: data = OrderedDict(sorted(data.items()))` -/
def finish (sort : Bool) (d : JObj) : JObj := if sort then sortObj d else d

def runJson (jk : List (Str × Str)) (descr : Str → Option Str) (usf : Str → Str) :
    List Block → JObj → Bool → Option JObj
  | [], d, sort => some (finish sort d)
  | b :: bs, d, sort =>
    if b.1 then
      (addMetrics jk descr usf d b.2.1).bind fun d' => runJson jk descr usf bs (insertMany d' b.2.2) sort
    else runJson jk descr usf bs d sort

def onGroups (bs : List Block) : List Group := (bs.filter (·.1)).map (·.2)

def blockItems (jk : List (Str × Str)) (descr : Str → Option Str) (usf : Str → Str) (g : Group) : JObj :=
  entries jk descr usf g.1 ++ g.2

def blockKeys (jk : List (Str × Str)) (g : Group) : List Str :=
  g.1.filterMap (fun m => lookup m jk) ++ keys g.2

def NoKeyError (jk : List (Str × Str)) (descr : Str → Option Str) (g : Group) : Prop :=
  ∀ m ∈ g.1, ∃ k d, lookup m jk = some k ∧ descr m = some d

theorem runJson_eq_some (jk : List (Str × Str)) (descr : Str → Option Str) (usf : Str → Str)
    (sort : Bool) (bs : List Block) : ∀ d j : JObj, runJson jk descr usf bs d sort = some j ↔
      (∀ g ∈ onGroups bs, NoKeyError jk descr g) ∧
        j = finish sort (insertMany d ((onGroups bs).flatMap (blockItems jk descr usf))) := by
  induction bs with
  | nil =>
    intro d j
    rw [runJson, Option.some.injEq]
    exact ⟨fun h => ⟨fun _ hb => (nomatch hb), h.symm⟩, fun h => h.2.symm⟩
  | cons b bs ih =>
    intro d j
    rw [runJson, onGroups, List.filter_cons]
    cases b.1 with
    | false => exact ih d j
    | true =>
      rw [if_pos rfl, if_pos rfl, List.map_cons, List.forall_mem_cons, List.flatMap_cons, blockItems,
        insertMany_append, insertMany_append]
      constructor
      · intro h
        obtain ⟨d1, h1, h2⟩ := Option.bind_eq_some_iff.1 h
        obtain ⟨g1, rfl⟩ := (addMetrics_eq_some jk descr usf _ _ _).1 h1
        obtain ⟨g2, e⟩ := (ih _ _).1 h2
        exact ⟨⟨g1, g2⟩, e⟩
      · rintro ⟨⟨g1, g2⟩, e⟩
        rw [(addMetrics_eq_some jk descr usf _ d _).2 ⟨g1, rfl⟩]
        exact (ih _ _).2 ⟨g2, e⟩

theorem keys_blockItems (jk : List (Str × Str)) (descr : Str → Option Str) (usf : Str → Str)
    (gs : List Group) (h : ∀ g ∈ gs, NoKeyError jk descr g) :
    keys (gs.flatMap (blockItems jk descr usf)) = gs.flatMap (blockKeys jk) := by
  induction gs with
  | nil => rfl
  | cons g gs ih =>
    rw [List.forall_mem_cons] at h
    rw [List.flatMap_cons, List.flatMap_cons, keys_append, ih h.2, blockItems, keys_append,
      keys_entries_eq jk descr usf g.1 h.1, blockKeys]

theorem onGroups_sublist (bs : List Block) : (onGroups bs).Sublist (bs.map (·.2)) :=
  List.filter_sublist.map _

theorem finish_perm (sort : Bool) (d : JObj) : (finish sort d).Perm d := by
  cases sort
  · exact List.Perm.refl _
  · exact sortObj_perm' d

section spec
variable {jk : List (Str × Str)} {descr : Str → Option Str} {usf : Str → Str}

def KeysFresh (jk : List (Str × Str)) (bs : List Block) (d0 : JObj) : Prop :=
  (keys d0 ++ (bs.map (·.2)).flatMap (blockKeys jk)).Nodup

theorem runJson_sort (bs : List Block) (d0 : JObj) :
    runJson jk descr usf bs d0 true = (runJson jk descr usf bs d0 false).map sortObj := by
  induction bs generalizing d0 with
  | nil => rfl
  | cons b bs ih =>
    simp only [runJson]
    split
    · cases addMetrics jk descr usf d0 b.2.1 with
      | none => rfl
      | some d' => exact ih _
    · exact ih d0

theorem runJson_spec {bs : List Block} {d0 j : JObj} {sort : Bool} (hn : KeysFresh jk bs d0)
    (h : runJson jk descr usf bs d0 sort = some j) :
    (keys j).Nodup ∧
    (∀ k v, lookup k j = some v ↔ (k, v) ∈ d0 ++ (onGroups bs).flatMap (blockItems jk descr usf)) ∧
    (∀ k, k ∈ keys j ↔ k ∈ keys d0 ++ (onGroups bs).flatMap (blockKeys jk)) ∧
    (∀ g ∈ onGroups bs, ∀ m ∈ g.1, ∃ k d, lookup m jk = some k ∧ descr m = some d ∧
        lookup k j = some (.str (usf d))) := by
  obtain ⟨hg, e⟩ := (runJson_eq_some jk descr usf sort bs d0 j).1 h
  have hk : keys (d0 ++ (onGroups bs).flatMap (blockItems jk descr usf)) = keys d0 ++ (onGroups bs).flatMap (blockKeys jk) := by
    rw [keys_append, keys_blockItems jk descr usf _ hg]
  have hnd : (keys (d0 ++ (onGroups bs).flatMap (blockItems jk descr usf))).Nodup :=
    hk ▸ ((List.Sublist.refl _).append (sublist_flatMap (onGroups_sublist bs) _)).nodup hn
  rw [insertMany_of_nodup _ _ hnd] at e
  subst e
  have hp := finish_perm sort (d0 ++ (onGroups bs).flatMap (blockItems jk descr usf))
  have hpk := List.Perm.map (fun p : Str × JVal => p.1) hp
  have hnj : (keys (finish sort (d0 ++ (onGroups bs).flatMap (blockItems jk descr usf)))).Nodup := hpk.nodup_iff.2 hnd
  have hl : ∀ k v, lookup k (finish sort (d0 ++ (onGroups bs).flatMap (blockItems jk descr usf))) = some v ↔
      (k, v) ∈ d0 ++ (onGroups bs).flatMap (blockItems jk descr usf) :=
    fun k v => by rw [lookup_perm _ _ hp hnj, lookup_eq_some_iff _ hnd]
  have hmem : ∀ k, k ∈ keys (finish sort (d0 ++ (onGroups bs).flatMap (blockItems jk descr usf))) ↔
      k ∈ keys d0 ++ (onGroups bs).flatMap (blockKeys jk) := fun k => hk ▸ hpk.mem_iff
  refine ⟨hnj, hl, hmem, ?_⟩
  intro g hb m hm
  obtain ⟨k, dd, h1, h2⟩ := hg g hb m hm
  exact ⟨k, dd, h1, h2, (hl _ _).2 (List.mem_append_right _ (List.mem_flatMap.2
    ⟨g, hb, List.mem_append_left _ (mem_entries.2 ⟨m, hm, dd, h1, h2, rfl⟩)⟩))⟩

theorem runJson_header {bs : List Block} {d0 j : JObj} {sort : Bool} (hn : KeysFresh jk bs d0)
    (h : runJson jk descr usf bs d0 sort = some j) {k : Str} {v : JVal} (hkv : (k, v) ∈ d0) :
    lookup k j = some v :=
  ((runJson_spec hn h).2.1 k v).2 (List.mem_append_left _ hkv)

theorem runJson_extra {bs : List Block} {d0 j : JObj} {sort : Bool} (hn : KeysFresh jk bs d0)
    (h : runJson jk descr usf bs d0 sort = some j) {g : Group} (hg : g ∈ onGroups bs)
    {k : Str} {v : JVal} (hkv : (k, v) ∈ g.2) : lookup k j = some v :=
  ((runJson_spec hn h).2.1 k v).2
    (List.mem_append_right _ (List.mem_flatMap.2 ⟨g, hg, List.mem_append_right _ hkv⟩))

/-- `hk`: `k` is a key of the run with every block on -/
theorem mem_on_keys_iff {bs : List Block} {d0 : JObj} (hn : KeysFresh jk bs d0) {k : Str}
    (hk : k ∈ keys d0 ++ (bs.map (·.2)).flatMap (blockKeys jk)) :
    k ∈ keys d0 ++ (onGroups bs).flatMap (blockKeys jk) ↔ ∀ b ∈ bs, b.1 = false → k ∉ blockKeys jk b.2 := by
  rw [KeysFresh, List.flatMap_map] at hn
  rw [List.flatMap_map] at hk
  obtain ⟨-, hnb, hdis⟩ := List.nodup_append.1 hn
  rw [onGroups, List.flatMap_map]
  rcases List.mem_append.1 hk with h0 | hb
  · exact ⟨fun _ b hb _ hkb => hdis k h0 k (List.mem_flatMap.2 ⟨b, hb, hkb⟩) rfl,
      fun _ => List.mem_append_left _ h0⟩
  · rw [← mem_flatMap_filter hnb hb, List.mem_append]
    exact or_iff_right fun h0 => hdis k h0 k hb rfl

/-- swapped: C11 lists a group's extra keys before its metric keys -/
theorem mem_blockKeys (g : Group) (k : Str) :
    k ∈ blockKeys jk g ↔ k ∈ keys g.2 ++ g.1.filterMap (fun m => lookup m jk) := by
  simp only [blockKeys, List.mem_append]
  exact or_comm

/-- the right-hand side of `mem_on_keys_iff` for `blocks2` and `blocks3` -/
theorem off_blocks_iff (g0 g1 g2 : Group) (c1 c2 : Bool) (k : Str) :
    (∀ b ∈ [((true, g0) : Block), (c1, g1), (c2, g2)], b.1 = false → k ∉ blockKeys jk b.2) ↔
      ¬ ((c1 = false ∧ k ∈ keys g1.2 ++ g1.1.filterMap (fun m => lookup m jk)) ∨
         (c2 = false ∧ k ∈ keys g2.2 ++ g2.1.filterMap (fun m => lookup m jk))) := by
  simp only [List.forall_mem_cons, List.not_mem_nil, false_imp_iff, implies_true, and_true, mem_blockKeys,
    Bool.true_eq_false, true_and, not_or, not_and]

end spec

/-- closed, so that `KeysFresh` of a concrete `as_json` is one evaluation whatever the object and the
    options (`fresh2`) -/
def allKeys (jk : List (Str × Str)) (hdr : List Str) (gs : List (List Str × List Str)) : List Str :=
  hdr ++ gs.flatMap fun g => g.1.filterMap (fun m => lookup m jk) ++ g.2

theorem truthy_getD (t : Option Rat) : (if truthy t then t.getD 0 else 0) = t.getD 0 := by
  cases t with
  | none => rfl
  | some x => by_cases hx : x = 0 <;> simp [truthy, hx]

def hdr2 (o : V2.Obj) : JObj :=
  [(c!"version", .str c!"2.0"), (c!"vectorString", .str o.vector), (c!"baseScore", .num o.base)]

def blocks2 (o : V2.Obj) (minimal : Bool) : List Block :=
  [(true, Gen.V2.mandatory, []),
   (!minimal || o.temporal.isSome, Gen.V2.temporal, [(c!"temporalScore", .num (o.temporal.getD 0))]),
   (!minimal || o.env.isSome, Gen.V2.environmental, [(c!"environmentalScore", .num (o.env.getD 0))])]

theorem asJson2_run (o : V2.Obj) (sort minimal : Bool) :
    asJson2 o sort minimal =
      runJson Gen.V2.jsonKeys (V2.getDescription o.metrics) us2 (blocks2 o minimal) (hdr2 o) sort := by
  -- unfolded, both sides are the same nest of `bind`s up to the spelling of `if c then … else pure d`
  simp only [asJson2, truthy_getD, blocks2, runJson, if_true]
  rfl

def allKeys2 : List Str := allKeys Gen.V2.jsonKeys [c!"version", c!"vectorString", c!"baseScore"]
  [(Gen.V2.mandatory, []), (Gen.V2.temporal, [c!"temporalScore"]),
   (Gen.V2.environmental, [c!"environmentalScore"])]

theorem allKeys2_nodup : allKeys2.Nodup := by decide +kernel

theorem fresh2 (o : V2.Obj) (minimal : Bool) : KeysFresh Gen.V2.jsonKeys (blocks2 o minimal) (hdr2 o) :=
  allKeys2_nodup

theorem groups2_mem (k : Str) : k ∈ keys Gen.V2.abbrs ↔
    k ∈ Gen.V2.mandatory ∨ k ∈ Gen.V2.temporal ∨ k ∈ Gen.V2.environmental := by
  have h : (∀ k ∈ keys Gen.V2.abbrs, k ∈ Gen.V2.mandatory ++ (Gen.V2.temporal ++ Gen.V2.environmental)) ∧
      ∀ k ∈ Gen.V2.mandatory ++ (Gen.V2.temporal ++ Gen.V2.environmental), k ∈ keys Gen.V2.abbrs := by
    decide +kernel
  rw [← List.mem_append, ← List.mem_append]
  exact ⟨h.1 k, h.2 k⟩

def hdr3 (o : V3.Obj) : JObj :=
  [(c!"version", .str (c!"3." ++ natToStr o.minor)), (c!"vectorString", .str o.vector)]

def blocks3 (o : V3.Obj) (minimal : Bool) : List Block :=
  [(true, Gen.V3.mandatory,
      [(c!"baseScore", .num o.base), (c!"baseSeverity", .str (us3 (V3.sevOf o.base)))]),
   (!minimal || Gen.V3.temporal.any (fun k => hasKey k o.orig), Gen.V3.temporal,
      [(c!"temporalScore", .num o.temporal), (c!"temporalSeverity", .str (us3 (V3.sevOf o.temporal)))]),
   (!minimal || Gen.V3.environmental.any (fun k => hasKey k o.orig), Gen.V3.environmental,
      [(c!"environmentalScore", .num o.env), (c!"environmentalSeverity", .str (us3 (V3.sevOf o.env)))])]

theorem asJson3_run (o : V3.Obj) (sort minimal : Bool) :
    asJson3 o sort minimal =
      runJson Gen.V3.jsonKeys (V3.getDescription o.metrics) us3 (blocks3 o minimal) (hdr3 o) sort := by
  simp only [blocks3, runJson, if_true]
  rfl

def allKeys3 : List Str := allKeys Gen.V3.jsonKeys [c!"version", c!"vectorString"]
  [(Gen.V3.mandatory, [c!"baseScore", c!"baseSeverity"]),
   (Gen.V3.temporal, [c!"temporalScore", c!"temporalSeverity"]),
   (Gen.V3.environmental, [c!"environmentalScore", c!"environmentalSeverity"])]

theorem allKeys3_nodup : allKeys3.Nodup := by decide +kernel

theorem fresh3 (o : V3.Obj) (minimal : Bool) : KeysFresh Gen.V3.jsonKeys (blocks3 o minimal) (hdr3 o) :=
  allKeys3_nodup

theorem groups3_mem (k : Str) : k ∈ keys Gen.V3.abbrs ↔
    k ∈ Gen.V3.mandatory ∨ k ∈ Gen.V3.temporal ∨ k ∈ Gen.V3.environmental := by
  have h : (∀ k ∈ keys Gen.V3.abbrs, k ∈ Gen.V3.mandatory ++ (Gen.V3.temporal ++ Gen.V3.environmental)) ∧
      ∀ k ∈ Gen.V3.mandatory ++ (Gen.V3.temporal ++ Gen.V3.environmental), k ∈ keys Gen.V3.abbrs := by
    decide +kernel
  rw [← List.mem_append, ← List.mem_append]
  exact ⟨h.1 k, h.2 k⟩

def hdr4 (o : V4.Obj) : JObj := [(c!"version", .str c!"4"), (c!"vectorString", .str o.vector)]

def blocks4 (o : V4.Obj) : List Block :=
  [(true, Gen.V4.metricsOrder, [(c!"baseScore", .num o.base), (c!"baseSeverity", .str o.severity)])]

theorem asJson4_run (o : V4.Obj) (sort minimal : Bool) :
    asJson4 o sort minimal =
      runJson Gen.V4.jsonKeys (V4.getDescription o.metrics) us3 (blocks4 o) (hdr4 o) sort := by
  simp only [blocks4, runJson, if_true]
  rfl

def allKeys4 : List Str := allKeys Gen.V4.jsonKeys [c!"version", c!"vectorString"]
  [(Gen.V4.metricsOrder, [c!"baseScore", c!"baseSeverity"])]

theorem allKeys4_nodup : allKeys4.Nodup := by decide +kernel

theorem fresh4 (o : V4.Obj) : KeysFresh Gen.V4.jsonKeys (blocks4 o) (hdr4 o) := allKeys4_nodup

end Cvss.Model
