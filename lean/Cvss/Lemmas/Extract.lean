/-
  The text scanner (`Cvss/Model/Extract.lean`) followed up to a delimited occurrence: a match that starts
  earlier ends before the delimiter (`matchHere_pre`, for an occurrence that does not begin with '.' or '/'), so the
  scanner comes to stand at it (`mem_findAll_of_delimited`); what folding `addDedup` keeps.
-/
import Cvss.Model.Extract
namespace Cvss.Model.Extract
open Cvss

theorem classRun_eq (s : Str) : classRun s = (s.takeWhile inClass, s.dropWhile inClass) := by
  induction s with
  | nil => rfl
  | cons c cs ih =>
    unfold classRun
    cases h : inClass c <;> simp [h, ih]

theorem dropWhile_delim (q : Str) {d : Char} (rest : Str) (hd : inClass d = false) :
    (q ++ d :: rest).dropWhile inClass = q.dropWhile inClass ++ d :: rest := by
  rw [List.dropWhile_append]
  split
  next h =>
    rw [List.isEmpty_iff.1 h, List.dropWhile_cons_of_neg (by simp [hd])]
    rfl
  next => rfl

theorem classRun_all (v post : Str) (hv : v.all inClass = true)
    (hr : ∀ c, post.head? = some c → inClass c = false) : classRun (v ++ post) = (v, post) := by
  have hv' := List.all_eq_true.1 hv
  rw [classRun_eq, List.takeWhile_append_of_pos hv', List.dropWhile_append_of_pos hv']
  cases post with
  | nil => simp
  | cons c cs => simp [hr c rfl]

theorem matchPrefix_some {isDigit : Char → Bool} {s rest : Str}
    (h : matchPrefix isDigit s = some rest) :
    ∃ d, s = c!"CVSS:3." ++ [d, '/'] ++ rest ∧ isDigit d = true := by
  unfold matchPrefix at h
  split at h
  · split at h
    · cases h; exact ⟨_, rfl, ‹_›⟩
    · cases h
  · cases h

theorem matchHere_cases {isDigit : Char → Bool} {s m r : Str}
    (h : matchHere isDigit s = some (m, r)) :
    ∃ p b, s = p ++ b ∧ (p = [] ∨ ∃ d, isDigit d = true ∧ p = c!"CVSS:3." ++ [d, '/']) ∧
      m = p ++ b.takeWhile inClass ∧ r = b.dropWhile inClass ∧ 26 ≤ (b.takeWhile inClass).length := by
  unfold matchHere at h
  simp only [classRun_eq, ge_iff_le] at h
  split at h
  next rest hp =>
    obtain ⟨d, rfl, hd⟩ := matchPrefix_some hp
    split at h
    next hlen =>
      cases h
      exact ⟨_, rest, rfl, Or.inr ⟨d, hd, rfl⟩, rfl, rfl, hlen⟩
    next =>
      split at h
      next hlen =>
        cases h
        exact ⟨[], _, rfl, Or.inl rfl, rfl, rfl, hlen⟩
      next => cases h
  next =>
    split at h
    next hlen =>
      cases h
      exact ⟨[], _, rfl, Or.inl rfl, rfl, rfl, hlen⟩
    next => cases h

theorem matchHere_some {isDigit : Char → Bool} {s m r : Str}
    (h : matchHere isDigit s = some (m, r)) : m ++ r = s ∧ 26 ≤ m.length := by
  obtain ⟨p, b, rfl, -, rfl, rfl, hlen⟩ := matchHere_cases h
  rw [List.append_assoc, List.takeWhile_append_dropWhile, List.length_append]
  exact ⟨rfl, by omega⟩

theorem matchHere_length {isDigit : Char → Bool} {s m r : Str}
    (h : matchHere isDigit s = some (m, r)) : r.length + 26 ≤ s.length := by
  obtain ⟨h1, h2⟩ := matchHere_some h
  rw [← h1, List.length_append]
  omega

/-- `h0`, `h0'`, `h1`: what follows `d` cannot complete the optional prefix `CVSS:3.<digit>/` -/
theorem matchHere_pre {isDigit : Char → Bool} (q : Str) (d r0 r1 : Char) (rest m r : Str)
    (hd : inClass d = false) (h0 : r0 ≠ '.') (h0' : r0 ≠ '/') (h1 : r1 ≠ '/')
    (h : matchHere isDigit (q ++ d :: r0 :: r1 :: rest) = some (m, r)) :
    ∃ q', r = q' ++ d :: r0 :: r1 :: rest := by
  obtain ⟨p, b, hs, hp, -, rfl, -⟩ := matchHere_cases h
  rcases hp with rfl | ⟨x, -, rfl⟩
  · cases hs
    exact ⟨_, dropWhile_delim q _ hd⟩
  · -- where in `CVSS:3.x/` does `d` stand (`q` has 0, 1, …, 8 or at least 9 characters)?  `C`, `V`, `S`, `:`
    -- and `/` are in the class.
    rcases q with _ | ⟨a0, _ | ⟨a1, _ | ⟨a2, _ | ⟨a3, _ | ⟨a4, _ | ⟨a5, _ | ⟨a6, _ | ⟨a7,
      _ | ⟨a8, q9⟩⟩⟩⟩⟩⟩⟩⟩⟩
    all_goals cases hs
    · cases hd              -- `d` is `C`
    · cases hd              -- `V`
    · cases hd              -- `S`
    · cases hd              -- `S`
    · cases hd              -- `:`
    · exact absurd rfl h0   -- `d` is `3`: then `r0` is `.`
    · exact absurd rfl h1   -- `d` is `.`: then `r1` is `/`
    · exact absurd rfl h0'  -- `d` is `x`: then `r0` is `/`
    · cases hd              -- `/`
    · exact ⟨_, dropWhile_delim q9 _ hd⟩  -- `d` stands behind the prefix

theorem matchHere_plain (isDigit : Char → Bool) (v post : Str) (hv : v.all inClass = true)
    (hlen : 26 ≤ v.length) (hr : ∀ c, post.head? = some c → inClass c = false) :
    matchHere isDigit (v ++ post) = some (v, post) := by
  have hp : matchPrefix isDigit (v ++ post) = none := by
    unfold matchPrefix
    split
    next heq =>
      -- the sixth character would be `3`, which is outside the class
      have h5 : (v ++ post)[5]? = some '3' := by rw [heq]; rfl
      rw [List.getElem?_append_left (by omega)] at h5
      have := List.all_eq_true.1 hv _ (List.mem_of_getElem? h5)
      simp [inClass] at this
    next => rfl
  unfold matchHere
  simp only [hp, classRun_all v post hv hr]
  simp [hlen]

theorem matchHere_prefixed (isDigit : Char → Bool) (x : Char) (body post : Str)
    (hx : isDigit x = true) (hv : body.all inClass = true) (hlen : 26 ≤ body.length)
    (hr : ∀ c, post.head? = some c → inClass c = false) :
    matchHere isDigit ('C' :: 'V' :: 'S' :: 'S' :: ':' :: '3' :: '.' :: x :: '/' :: body ++ post) =
      some ('C' :: 'V' :: 'S' :: 'S' :: ':' :: '3' :: '.' :: x :: '/' :: body, post) := by
  unfold matchHere
  simp only [List.cons_append, matchPrefix, hx, if_true, classRun_all body post hv hr]
  simp [hlen]

theorem findAll_cons (isDigit : Char → Bool) (fuel : Nat) (c : Char) (cs : Str) :
    findAll isDigit (fuel + 1) (c :: cs) =
      match matchHere isDigit (c :: cs) with
      | some (m, rest) => m :: findAll isDigit fuel rest
      | none => findAll isDigit fuel cs := findAll.eq_3 ..

theorem mem_findAll_of_matchHere {isDigit : Char → Bool} {s m r : Str} {fuel : Nat}
    (h : matchHere isDigit s = some (m, r)) (hf : s.length ≤ fuel) : m ∈ findAll isDigit fuel s := by
  have := matchHere_length h
  cases s with
  | nil => simp at this
  | cons c cs =>
    cases fuel with
    | zero => simp at hf
    | succ fuel =>
      rw [findAll_cons, h]
      exact List.mem_cons_self

theorem mem_findAll_append {isDigit : Char → Bool} {tail x : Str}
    (H : ∀ q m r, matchHere isDigit (q ++ tail) = some (m, r) → ∃ q', r = q' ++ tail)
    (hx : ∀ fuel, tail.length ≤ fuel → x ∈ findAll isDigit fuel tail) :
    ∀ fuel (q : Str), (q ++ tail).length ≤ fuel → x ∈ findAll isDigit fuel (q ++ tail) := by
  intro fuel
  induction fuel with
  | zero => intro q hq; exact hx 0 (Nat.le_trans (by simp) hq)
  | succ fuel ih =>
    intro q hq
    cases q with
    | nil => exact hx _ hq
    | cons c cs =>
      rw [List.cons_append, findAll_cons]
      split
      next m r hmh =>
        obtain ⟨q', rfl⟩ := H (c :: cs) m r hmh
        have := matchHere_length hmh
        rw [List.cons_append] at hq
        exact List.mem_cons_of_mem _ (ih q' (by omega))
      next => exact ih cs (by simpa using hq)

/-- `r0`, `r1`: the two characters `matchHere_pre` asks about -/
theorem mem_findAll_of_delimited (isDigit : Char → Bool) (pre post : Str) (r0 r1 : Char) (v' : Str)
    (hl : ∀ c, pre.getLast? = some c → inClass c = false)
    (h0 : r0 ≠ '.') (h0' : r0 ≠ '/') (h1 : r1 ≠ '/')
    (hm : matchHere isDigit (r0 :: r1 :: v' ++ post) = some (r0 :: r1 :: v', post))
    (fuel : Nat) (hf : (pre ++ (r0 :: r1 :: v') ++ post).length ≤ fuel) :
    r0 :: r1 :: v' ∈ findAll isDigit fuel (pre ++ (r0 :: r1 :: v') ++ post) := by
  rcases List.eq_nil_or_concat pre with rfl | ⟨q, d, rfl⟩
  · exact mem_findAll_of_matchHere hm hf
  · have hd : inClass d = false := hl d (by simp)
    have H := fun q m r =>
      matchHere_pre (isDigit := isDigit) q d r0 r1 (v' ++ post) m r hd h0 h0' h1
    have e : q.concat d ++ (r0 :: r1 :: v') ++ post = q ++ d :: r0 :: r1 :: (v' ++ post) := by simp
    rw [e] at hf ⊢
    refine mem_findAll_append H ?_ fuel q hf
    -- standing at `d`, the scanner steps over it: a match there would have to end before `d`
    intro fuel' hf'
    cases fuel' with
    | zero => simp at hf'
    | succ fuel' =>
      rw [findAll_cons]
      split
      next m r hmh =>
        obtain ⟨q', rfl⟩ := H [] m r hmh
        have := matchHere_length hmh
        simp at this
        omega
      next => exact mem_findAll_of_matchHere hm (by simpa using hf')

theorem eq_refl (o : AnyObj) : o.eq o = true := by simp [AnyObj.eq]

theorem exists_eq_addDedup (acc : List AnyObj) (o : AnyObj) :
    ∃ o' ∈ addDedup acc o, o'.eq o = true := by
  unfold addDedup
  split
  next h =>
    obtain ⟨a, ha, hae⟩ := List.any_eq_true.1 h
    exact ⟨a, ha, hae⟩
  next => exact ⟨o, by simp, eq_refl o⟩

theorem pairwise_addDedup {acc : List AnyObj} (o : AnyObj)
    (h : acc.Pairwise (fun a b => a.eq b = false)) :
    (addDedup acc o).Pairwise (fun a b => a.eq b = false) := by
  unfold addDedup
  split
  next => exact h
  next hany =>
    rw [List.pairwise_append]
    refine ⟨h, by simp, ?_⟩
    intro a ha b hb
    have hb' : b = o := by simpa using hb
    subst hb'
    cases hab : a.eq b with
    | false => rfl
    | true => exact absurd (List.any_eq_true.2 ⟨a, ha, hab⟩) hany

theorem foldl_addDedup_sublist (l : List AnyObj) : ∀ acc,
    ∃ rest, l.foldl addDedup acc = acc ++ rest ∧ rest.Sublist l := by
  induction l with
  | nil => intro acc; exact ⟨[], by simp, .slnil⟩
  | cons o l ih =>
    intro acc
    obtain ⟨rest, h, hs⟩ := ih (addDedup acc o)
    rw [List.foldl_cons, h]
    unfold addDedup
    split
    · exact ⟨rest, rfl, hs.cons o⟩
    · exact ⟨o :: rest, by simp, hs.cons_cons o⟩

theorem foldl_addDedup_pairwise (l : List AnyObj) : ∀ acc,
    acc.Pairwise (fun a b => a.eq b = false) →
    (l.foldl addDedup acc).Pairwise (fun a b => a.eq b = false) := by
  induction l with
  | nil => intro acc h; exact h
  | cons o l ih => intro acc h; exact ih _ (pairwise_addDedup o h)

theorem foldl_addDedup_complete {l : List AnyObj} {o : AnyObj} (ho : o ∈ l) : ∀ acc,
    ∃ o' ∈ l.foldl addDedup acc, o'.eq o = true := by
  induction l with
  | nil => cases ho
  | cons x l ih =>
    intro acc
    rw [List.foldl_cons]
    rcases List.mem_cons.1 ho with rfl | ho
    · obtain ⟨o', ho', he⟩ := exists_eq_addDedup acc o
      obtain ⟨rest, h, -⟩ := foldl_addDedup_sublist l (addDedup acc o)
      exact ⟨o', by rw [h]; exact List.mem_append_left _ ho', he⟩
    · exact ih ho _

end Cvss.Model.Extract
