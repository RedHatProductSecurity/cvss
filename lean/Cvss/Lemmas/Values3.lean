/-
  Finite lists that contain every value the terms of the v3 equations take on legal assignments (68 Modified
  Impact Sub-Scores, 10 of them Impact Sub-Scores; 48 entries for the pairs of exploitabilities, 42 distinct), and the lemmas that find a
  legal assignment's terms in them.  Only containment is proved, and needed: the kernel-evaluated sweeps of
  C14 and C19 run over the lists.
-/
import Cvss.Lemmas.Spec3
namespace Cvss.Lemmas.Values3
open Cvss Cvss.Spec.V3 Cvss.Lemmas.Spec3

def rowVals (metric : Str) : List ℚ := ((lookup metric weights).getD []).map (·.2)

theorem w_mem_rowVals {metric t : Str}
    (h : (lookup t ((lookup metric weights).getD [])).isSome) : w metric t ∈ rowVals metric := by
  unfold w rowVals
  cases hr : lookup metric weights with
  | none => rw [hr] at h; simp [lookup] at h
  | some row =>
    rw [hr] at h
    simp only [Option.getD_some] at h ⊢
    obtain ⟨v, hv⟩ := Option.isSome_iff_exists.1 h
    rw [hv]
    exact List.mem_map.2 ⟨(t, v), lookup_mem hv, rfl⟩

/-- the part of legality that the arithmetic needs (Privileges Required, which has no row in `weights`, is a separate hypothesis) -/
def LegalW (a : Str → Str) : Prop := ∀ p ∈ weights, (lookup (a p.1) p.2).isSome

theorem weights_self : ∀ p ∈ weights, lookup p.1 weights = some p.2 := by decide +kernel

theorem legalW_w {a : Str → Str} (ha : LegalW a) {metric : Str} (hm : metric ∈ weights.map (·.1)) :
    w metric (a metric) ∈ rowVals metric := by
  obtain ⟨p, hp, rfl⟩ := List.mem_map.1 hm
  apply w_mem_rowVals
  rw [weights_self p hp]
  exact ha p hp

def prPairs : List (ℚ × ℚ) := [(r 85 100, r 85 100), (r 62 100, r 68 100), (r 27 100, r 5 10)]

theorem prWeight_mem {t : Str} (h : t ∈ [c!"N", c!"L", c!"H"]) :
    (prWeight false t, prWeight true t) ∈ prPairs := by
  revert t
  decide +kernel

/-- numerators over 10¹⁰ of the pairs (Scope Unchanged, Scope Changed) of exploitabilities
    8.22 × AV × AC × PR × UI, from the weights in hundredths: 4 · 2 · 3 · 2 = 48 entries -/
def explNN : List (ℕ × ℕ) :=
  [85, 62, 55, 20].flatMap fun av => [77, 44].flatMap fun ac =>
    [(85, 85), (62, 68), (27, 50)].flatMap fun pr => [85, 62].map fun ui =>
      (822 * av * ac * pr.1 * ui, 822 * av * ac * pr.2 * ui)

def explPairs : List (ℚ × ℚ) := explNN.map fun p => (r p.1 10000000000, r p.2 10000000000)

theorem explOf_sweep : ∀ av ∈ rowVals c!"AV", ∀ ac ∈ rowVals c!"AC", ∀ pr ∈ prPairs,
    ∀ ui ∈ rowVals c!"UI", (explOf av ac pr.1 ui, explOf av ac pr.2 ui) ∈ explPairs := by
  decide +kernel

theorem explOf_mem {av ac ui : ℚ} {t : Str} (h1 : av ∈ rowVals c!"AV") (h2 : ac ∈ rowVals c!"AC")
    (ht : t ∈ [c!"N", c!"L", c!"H"]) (h4 : ui ∈ rowVals c!"UI") :
    (explOf av ac (prWeight false t) ui, explOf av ac (prWeight true t) ui) ∈ explPairs :=
  explOf_sweep av h1 ac h2 _ (prWeight_mem ht) ui h4

theorem explPairs_ok : ∀ e ∈ explPairs, 0 ≤ e.1 ∧ e.1 ≤ e.2 := by decide +kernel

/-- numerators over 100 of the 7 distinct products (impact weight) × (requirement weight).  This list, `missN`
    (= `(prodN³).map missNat`, de-duplicated, sorted) and `issN` are literals; the sweeps below check that
    every value is among the entries -/
def prodN : List ℕ := [0, 11, 22, 28, 33, 56, 84]

def prodVals : List ℚ := prodN.map fun n : ℕ => r (n : ℤ) 100

theorem prod_mem : ∀ m ∈ [(c!"C", c!"CR"), (c!"I", c!"IR"), (c!"A", c!"AR")],
    ∀ c ∈ rowVals m.1, ∀ q ∈ rowVals m.2, c * q ∈ prodVals := by decide +kernel

/-- numerators over 10⁶ of the Modified Impact Sub-Score, ascending: the values of `missNat` on the 7³
    triples of products (`missNat_sweep` shows that none is missing) -/
def missN : List ℕ :=
  [0, 110000, 207900, 220000, 280000, 295031, 305800, 330000, 359200, 382162, 391600, 403700,
    429688, 438400, 458524, 469293, 477400, 481600, 500176, 517600, 525448, 534886, 538624, 551100,
    560000, 561952, 570664, 592372, 595648, 600479, 608400, 623728, 626752, 649858, 651476, 652672,
    656800, 676792, 683200, 694552, 699237, 705200, 718048, 732304, 737628, 752896, 770056, 771904,
    787744, 802484, 806400, 827696, 840000, 848992, 857600, 860608, 870288, 873264, 875200, 884800,
    888928, 892800, 897472, 902656, 904592, 910144, 914816, 915000]

def missVals : List ℚ := missN.map fun n : ℕ => r (n : ℤ) 1000000

/-- numerator over 10⁶ of `missOf` on products with numerators `u`, `v`, `x` over 100 -/
def missNat (u v x : ℕ) : ℕ := min (1000000 - (100 - u) * (100 - v) * (100 - x)) 915000

theorem missOf_num {u v x : ℕ} (hu : u ≤ 100) (hv : v ≤ 100) (hx : x ≤ 100) :
    missOf (r u 100) (r v 100) (r x 100) = r (missNat u v x) 1000000 := by
  have hP : (100 - u) * (100 - v) * (100 - x) ≤ 1000000 :=
    Nat.mul_le_mul (Nat.mul_le_mul (Nat.sub_le _ _) (Nat.sub_le _ _)) (Nat.sub_le _ _)
  unfold missOf issOf missNat
  simp only [r, Rat.mkRat_eq_div]
  push_cast [Nat.cast_sub hu, Nat.cast_sub hv, Nat.cast_sub hx, Nat.cast_sub hP, Nat.cast_min]
  rw [show (915 : ℚ) / 1000 = 915000 / 1000000 by norm_num, ← min_div_div_right (by norm_num)]
  congr 1
  ring

theorem missNat_sweep : ∀ u ∈ prodN, ∀ v ∈ prodN, ∀ x ∈ prodN,
    u ≤ 100 ∧ v ≤ 100 ∧ x ≤ 100 ∧ missNat u v x ∈ missN := by decide +kernel

theorem missOf_mem {c cr i ir x ar : ℚ} (hc : c ∈ rowVals c!"C") (hcr : cr ∈ rowVals c!"CR")
    (hi : i ∈ rowVals c!"I") (hir : ir ∈ rowVals c!"IR") (hx : x ∈ rowVals c!"A")
    (har : ar ∈ rowVals c!"AR") : missOf (c * cr) (i * ir) (x * ar) ∈ missVals := by
  obtain ⟨u, hu, eu⟩ := List.mem_map.1 (prod_mem (c!"C", c!"CR") (by decide) c hc cr hcr)
  obtain ⟨v, hv, ev⟩ := List.mem_map.1 (prod_mem (c!"I", c!"IR") (by decide) i hi ir hir)
  obtain ⟨y, hy, ey⟩ := List.mem_map.1 (prod_mem (c!"A", c!"AR") (by decide) x hx ar har)
  obtain ⟨h1, h2, h3, h⟩ := missNat_sweep u hu v hv y hy
  rw [← eu, ← ev, ← ey, missOf_num h1 h2 h3]
  exact List.mem_map.2 ⟨_, h, rfl⟩

/-- numerators over 10⁶ of the 10 values of the (base) Impact Sub-Score, ascending -/
def issN : List ℕ :=
  [0, 220000, 391600, 525448, 560000, 656800, 732304, 806400, 848992, 914816]

def issVals : List ℚ := issN.map fun n : ℕ => r (n : ℤ) 1000000

theorem issOf_sweep : ∀ c ∈ rowVals c!"C", ∀ i ∈ rowVals c!"I", ∀ x ∈ rowVals c!"A",
    issOf c i x ∈ issVals := by decide +kernel

theorem issVals_sub {v : ℚ} (h : v ∈ issVals) : v ∈ missVals :=
  List.map_subset _ (by decide +kernel : issN ⊆ missN) h

theorem issOf_mem {c i x : ℚ} (hc : c ∈ rowVals c!"C") (hi : i ∈ rowVals c!"I")
    (hx : x ∈ rowVals c!"A") : issOf c i x ∈ issVals := issOf_sweep c hc i hi x hx

end Cvss.Lemmas.Values3
