/-
  Arithmetic part of C19: the Changed-scope shape of the v3 equations does not move under a small perturbation
  of the impact where the exact values keep a margin from the `≤ 0` test, from the cap and from the rounding
  boundaries; a checker of the margins in integer arithmetic on numerators, proved correct once.
-/
import Cvss.Spec.V3
import Cvss.Lemmas.Num3
import Mathlib.Tactic.FieldSimp
namespace Cvss.Lemmas.Robust
open Cvss Cvss.Spec.V3 Cvss.Lemmas.Num3

/-- `Int.ceil_eq_iff` for core's `Rat.ceil` -/
theorem ceil_eq_of {x : Rat} {c : Int} (h1 : (c : Rat) - 1 < x) (h2 : x ≤ c) : x.ceil = c :=
  (Rat.ceil_eq_neg_floor_neg x).trans (Int.ceil_eq_iff.2 ⟨h1, h2⟩)

/-- on the argument `y` of `roundup (min y 10)`: `m` is the distance kept from the cap, `μ` that of `10·y` from
    the integers -/
def Margin (m μ y : ℚ) : Prop :=
  10 + m ≤ y ∨ (y ≤ 10 - m ∧ ∃ c : ℤ, (c : ℚ) - 1 + μ ≤ y * 10 ∧ y * 10 ≤ c - μ)

/-- margins as letters, numbers only in the corollaries: `linarith` is slow on literals with denominators -/
theorem roundup_min_stable {y δ m μ d : ℚ} (h : Margin m μ y) (hm : d ≤ m) (hμ : d * 10 < μ)
    (h1 : -d ≤ δ) (h2 : δ ≤ d) : roundup (min (y + δ) 10) = roundup (min y 10) := by
  rcases h with h | ⟨ha, c, hb, hc⟩
  · rw [min_eq_right (by linarith), min_eq_right (by linarith)]
  · rw [min_eq_left (by linarith), min_eq_left (by linarith)]
    unfold roundup
    rw [ceil_eq_of (c := c) (by linarith) (by linarith),
      ceil_eq_of (c := c) (by linarith) (by linarith)]

theorem shape_robust_of {k imp e ε m μ d : ℚ} (hk : 0 ≤ k) (hd : d < m) (hkm : k * d ≤ m)
    (hkμ : k * d * 10 < μ) (h : imp ≤ -m ∨ (m ≤ imp ∧ Margin m μ (k * (imp + e))))
    (h1 : -d ≤ ε) (h2 : ε ≤ d) : shape k (imp + ε) e = shape k imp e := by
  unfold shape
  rcases h with h | ⟨ha, hb⟩
  · rw [if_pos (by linarith), if_pos (by linarith)]
  · rw [if_neg (by linarith), if_neg (by linarith),
      show k * (imp + ε + e) = k * (imp + e) + k * ε by ring,
      roundup_min_stable hb hkm hkμ (mul_neg k d ▸ mul_le_mul_of_nonneg_left h1 hk)
        (mul_le_mul_of_nonneg_left h2 hk)]

/-- the margins kept: above 1.08·10⁻⁷ and 10·1.08·10⁻⁷, what a perturbation of 10⁻⁷ of the impact makes of
    `y` and `10·y` (the side conditions in `shape_robust`) -/
def OkY (y : ℚ) : Prop := Margin (2 / 10000000) (11 / 10000000) y

def OkPair (imp e : ℚ) : Prop :=
  imp ≤ -(2 / 10000000) ∨ (2 / 10000000 ≤ imp ∧ OkY (r 108 100 * (imp + e)))

theorem shape_robust {imp e ε : ℚ} (h : OkPair imp e)
    (h1 : -(1 / 10000000) ≤ ε) (h2 : ε ≤ 1 / 10000000) :
    shape (r 108 100) (imp + ε) e = shape (r 108 100) imp e :=
  shape_robust_of (Rat.mkRat_nonneg (by decide) _) (by norm_num) (by decide +kernel)
    (by decide +kernel) h h1 h2

/-! The sub-scores are multiples of 10⁻⁶, so the impact `7.52·(m - 0.029) - 3.25·(…)¹⁵` (v3.0) or
`… (0.9731·m - 0.02)¹³` (v3.1) is an integer `I` over 10¹³² (10⁹² would do for v3.0; one scale serves
both); an exploitability is an integer `Ex` over 10¹⁰.  Then `10 · 1.08 · (imp + e) = N / 10¹³³` with
`N = 108·(I + Ex·10¹²²)`, and `OkY` asks for the remainder of `N` modulo 10¹³³ to keep 1.1·10⁻⁶·10¹³³ =
11·10¹²⁶ away from both ends.  `I` is computed in ℤ (`miZ`); where the impact is positive `I.toNat` takes
the test to ℕ, whose arithmetic on literals the kernel computes directly. -/

def okN (N : ℕ) : Bool :=
  Nat.ble (100 * 10 ^ 133 + 2 * 10 ^ 127) N ||
  (Nat.ble N (100 * 10 ^ 133 - 2 * 10 ^ 127) && Nat.ble (11 * 10 ^ 126) (N % 10 ^ 133)
    && Nat.ble (N % 10 ^ 133) (10 ^ 133 - 11 * 10 ^ 126))

theorem okN_spec {N : ℕ} (h : okN N = true) : OkY ((N : ℚ) / 10 ^ 134) := by
  unfold okN at h
  simp only [Bool.or_eq_true, Bool.and_eq_true, Nat.ble_eq] at h
  have hS : (0 : ℚ) < 10 ^ 134 := by positivity
  rcases h with h | ⟨⟨h1, h2⟩, h3⟩
  · left
    have : ((100 * 10 ^ 133 + 2 * 10 ^ 127 : ℕ) : ℚ) ≤ N := by exact_mod_cast h
    rw [le_div_iff₀ hS]
    push_cast at this
    linarith
  · right
    -- `N = q · 10¹³³ + rr`; the integer above `10·y` is `q + 1`
    have e := Nat.div_add_mod' N (10 ^ 133)
    generalize N / 10 ^ 133 = q at e
    generalize N % 10 ^ 133 = rr at e h2 h3
    subst e
    have h1' : ((q * 10 ^ 133 + rr : ℕ) : ℚ) ≤ ((100 * 10 ^ 133 - 2 * 10 ^ 127 : ℕ) : ℚ) := by
      exact_mod_cast h1
    have h2' : ((11 * 10 ^ 126 : ℕ) : ℚ) ≤ (rr : ℚ) := by exact_mod_cast h2
    have h3' : (rr : ℚ) ≤ ((10 ^ 133 - 11 * 10 ^ 126 : ℕ) : ℚ) := by exact_mod_cast h3
    rw [Nat.cast_sub (by norm_num)] at h1' h3'
    push_cast at h1' h2' h3' ⊢
    refine ⟨?_, (q : ℤ) + 1, ?_, ?_⟩
    · rw [div_le_iff₀ hS]
      linarith
    · push_cast
      rw [div_mul_eq_mul_div, le_div_iff₀ hS]
      linarith
    · push_cast
      rw [div_mul_eq_mul_div, div_le_iff₀ hS]
      linarith

def miZ (minor : Nat) (n : ℤ) : ℤ :=
  if minor = 0 then (752 * (n - 29000) * 10 ^ 84 - 325 * (n - 20000) ^ 15) * 10 ^ 40
  else 752 * (n - 29000) * 10 ^ 124 - 325 * (9731 * n - 200000000) ^ 13

theorem miZ_spec (minor : Nat) (n : ℤ) :
    modifiedImpact minor true (r n 1000000) = (miZ minor n : ℚ) / 10 ^ 132 := by
  -- the differences are put over one denominator first and generalized, so that `ring` sees their
  -- powers as atoms and does not expand them
  have e1 : r n 1000000 - r 29 1000 = ((n - 29000 : ℤ) : ℚ) / 1000000 := by
    simp only [r, Rat.mkRat_eq_div]
    push_cast
    ring
  have e2 : r n 1000000 - r 2 100 = ((n - 20000 : ℤ) : ℚ) / 1000000 := by
    simp only [r, Rat.mkRat_eq_div]
    push_cast
    ring
  have e3 : r n 1000000 * r 9731 10000 - r 2 100 =
      ((9731 * n - 200000000 : ℤ) : ℚ) / 10000000000 := by
    simp only [r, Rat.mkRat_eq_div]
    push_cast
    ring
  by_cases h : minor = 0
  · simp only [modifiedImpact, miZ, h, Bool.not_true, Bool.false_eq_true, if_false, if_true, e1, e2]
    simp only [r, Rat.mkRat_eq_div]
    push_cast
    generalize (n : ℚ) - 29000 = b
    generalize (n : ℚ) - 20000 = a
    field_simp
    ring
  · simp only [modifiedImpact, miZ, h, Bool.not_true, Bool.false_eq_true, if_false, e1, e3]
    simp only [r, Rat.mkRat_eq_div]
    push_cast
    generalize (n : ℚ) - 29000 = b
    generalize 9731 * (n : ℚ) - 200000000 = a
    field_simp
    ring

/-- `2·10¹²⁵` is 2·10⁻⁷ over 10¹³²; `Ex·10¹²²` puts the exploitability over 10¹³² -/
def okPairN (I : ℤ) (Ex : ℕ) : Bool :=
  decide (I ≤ -(2 * 10 ^ 125)) ||
  (decide (2 * 10 ^ 125 ≤ I) && okN (108 * (I.toNat + Ex * 10 ^ 122)))

theorem okPairN_spec {I : ℤ} {Ex : ℕ} (h : okPairN I Ex = true) :
    OkPair ((I : ℚ) / 10 ^ 132) ((Ex : ℚ) / 10 ^ 10) := by
  unfold okPairN at h
  simp only [Bool.or_eq_true, Bool.and_eq_true, decide_eq_true_eq] at h
  have hS : (0 : ℚ) < 10 ^ 132 := by positivity
  rcases h with h | ⟨h1, h2⟩
  · left
    have : (I : ℚ) ≤ ((-(2 * 10 ^ 125) : ℤ) : ℚ) := by exact_mod_cast h
    rw [div_le_iff₀ hS]
    push_cast at this
    linarith
  · refine Or.inr ⟨?_, ?_⟩
    · have : (((2 * 10 ^ 125) : ℤ) : ℚ) ≤ (I : ℚ) := by exact_mod_cast h1
      rw [le_div_iff₀ hS]
      push_cast at this
      linarith
    · have e : ((I.toNat : ℕ) : ℚ) = (I : ℚ) := by
        have : ((I.toNat : ℕ) : ℤ) = I := Int.toNat_of_nonneg (by omega)
        exact_mod_cast this
      have := okN_spec h2
      convert this using 1
      rw [r, Rat.mkRat_eq_div]
      push_cast
      rw [e]
      field_simp
      ring

end Cvss.Lemmas.Robust
