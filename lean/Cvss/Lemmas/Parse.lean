/-
  What the generic parser of Model/Parse.lean computes, for well-formed tables with '/'-free legal pairs (and `PfxOk`
  prefixes): a string is accepted exactly when it is the rendering of a non-empty map with legal fields
  of pairwise distinct metrics (`Parsed`), and `check_mandatory` adds the mandatory metrics (`Accepted`); every other string gets the
  malformed-vector or the mandatory-metric error.
-/
import Cvss.Model.Parse
import Cvss.Lemmas.Str
namespace Cvss.Model
open Cvss

theorem map_ok_iff {α β : Type} {f : α → β} {x : Except Err α} {b : β} :
    x.map f = .ok b ↔ ∃ a, x = .ok a ∧ b = f a := by
  cases x <;> simp [Except.map, eq_comm]

theorem map_error_iff {α β : Type} {f : α → β} {x : Except Err α} {e : Err} :
    x.map f = .error e ↔ x = .error e := by
  cases x <;> simp [Except.map]

theorem exists_ok_congr {α β : Type} {x : Except Err α} {y : Except Err β} (h : ∀ e, x = .error e ↔ y = .error e) :
    (∃ a, x = .ok a) ↔ ∃ b, y = .ok b := by
  cases x with
  | error e => cases (h e).1 rfl; simp
  | ok a =>
    cases y with
    | error e => cases (h e).2 rfl
    | ok b => simp

/-- every metric of `abbrs` has a row in `legal` (no KeyError) and `legal` has no other rows; it follows for tables
    pinned to a vocabulary (`C04.wf_of_pinned`) -/
def Tables.wf (T : Tables) : Bool :=
  T.abbrs.all (fun m => (lookup m T.legal).isSome) && (keys T.legal).all (fun m => decide (m ∈ T.abbrs))

def fieldOf (kv : Str × Str) : Str := kv.1 ++ ':' :: kv.2

/-- the parts are ':'-free so that `field.split(":")` gives the pair back: owed by whoever builds a map -/
def LegalPair (T : Tables) (kv : Str × Str) : Prop :=
  kv.1 ∈ T.abbrs ∧ (∃ vs, lookup kv.1 T.legal = some vs ∧ kv.2 ∈ vs) ∧ ':' ∉ kv.1 ∧ ':' ∉ kv.2

theorem Tables.wf_lookup_of_mem_abbrs {T : Tables} (hT : T.wf = true) {m : Str} (h : m ∈ T.abbrs) :
    ∃ vs, lookup m T.legal = some vs := by
  unfold Tables.wf at hT
  rw [Bool.and_eq_true] at hT
  have := List.all_eq_true.1 hT.1 m h
  exact Option.isSome_iff_exists.1 this

theorem Tables.wf_mem_abbrs_of_lookup {T : Tables} (hT : T.wf = true) {m : Str} {vs : List Str}
    (h : lookup m T.legal = some vs) : m ∈ T.abbrs := by
  unfold Tables.wf at hT
  rw [Bool.and_eq_true] at hT
  have hk : m ∈ keys T.legal := mem_keys_of_mem (lookup_mem h)
  have := List.all_eq_true.1 hT.2 m hk
  exact of_decide_eq_true this

theorem parseField_not_pair (T : Tables) (acc : MMap) (f : Str) (h : ∀ m v, splitOn ':' f ≠ [m, v]) :
    parseField T acc f = .error .malformed := by
  unfold parseField
  by_cases hne : f = []
  · rw [if_pos hne]
  · rw [if_neg hne]
    rcases hs : splitOn ':' f with _ | ⟨a, _ | ⟨b, _ | ⟨c, t⟩⟩⟩
    · rfl
    · rfl
    · exact absurd hs (h a b)
    · rfl

/-- for well-formed tables both orders of the three per-field tests (`Tables.v4style`) decide the same -/
theorem parseField_pair (T : Tables) (hT : T.wf = true) (acc : MMap) (f m v : Str) (hsp : splitOn ':' f = [m, v]) :
    parseField T acc f =
      if f ≠ [] ∧ hasKey m acc = false ∧ ∃ vs, lookup m T.legal = some vs ∧ v ∈ vs then .ok (acc ++ [(m, v)])
      else .error .malformed := by
  unfold parseField
  by_cases hne : f = []
  · simp [hne]
  · simp only [if_neg hne, hsp]
    cases hl : lookup m T.legal with
    | none =>
      have hab : m ∉ T.abbrs := fun h => by
        obtain ⟨vs, hvs⟩ := T.wf_lookup_of_mem_abbrs hT h
        rw [hvs] at hl; cases hl
      -- no row, so by `wf` no metric: the v2 / v3 order stops at `m ∈ abbrs`, never at the KeyError (`.foreign`) branch
      cases T.v4style <;> cases hasKey m acc <;> simp [hne, hab]
    | some vs =>
      have hab : m ∈ T.abbrs := T.wf_mem_abbrs_of_lookup hT hl
      -- both orders of the tests agree on each of duplicate / new × legal / illegal
      cases T.v4style <;> cases hasKey m acc <;> by_cases hv : v ∈ vs <;> simp [hne, hab, hv]

theorem parseField_ok_iff (T : Tables) (hT : T.wf = true) (acc : MMap) (f : Str) (acc' : MMap) :
    parseField T acc f = .ok acc' ↔
      ∃ kv, f = fieldOf kv ∧ LegalPair T kv ∧ kv.1 ∉ keys acc ∧ acc' = acc ++ [kv] := by
  constructor
  · intro h
    by_cases hp : ∃ m v, splitOn ':' f = [m, v]
    · obtain ⟨m, v, hsp⟩ := hp
      rw [parseField_pair T hT acc f m v hsp] at h
      split at h
      · rename_i hc
        obtain ⟨-, hk, vs, hl, hv⟩ := hc
        obtain ⟨hf, hm, hv'⟩ := (splitOn_eq_pair_iff _ _ _ _).1 hsp
        cases h
        refine ⟨(m, v), hf, ⟨T.wf_mem_abbrs_of_lookup hT hl, ⟨vs, hl, hv⟩, hm, hv'⟩, fun hmem => ?_, rfl⟩
        rw [(hasKey_iff_mem_keys _ _).2 hmem] at hk; cases hk
      · cases h
    · rw [parseField_not_pair T acc f (fun m v e => hp ⟨m, v, e⟩)] at h; cases h
  · rintro ⟨⟨m, v⟩, rfl, ⟨-, hl, hm, hv⟩, hk, rfl⟩
    rw [parseField_pair T hT acc (fieldOf (m, v)) m v ((splitOn_eq_pair_iff _ _ _ _).2 ⟨rfl, hm, hv⟩), if_pos]
    refine ⟨by simp [fieldOf], ?_, hl⟩
    cases hb : hasKey m acc with
    | false => rfl
    | true => exact absurd ((hasKey_iff_mem_keys _ _).1 hb) hk

theorem parseField_error (T : Tables) (hT : T.wf = true) (acc : MMap) (f : Str) (e : Err)
    (h : parseField T acc f = .error e) : e = .malformed := by
  by_cases hp : ∃ m v, splitOn ':' f = [m, v]
  · obtain ⟨m, v, hsp⟩ := hp
    rw [parseField_pair T hT acc f m v hsp] at h
    split at h <;> cases h
    rfl
  · rw [parseField_not_pair T acc f (fun m v e => hp ⟨m, v, e⟩)] at h
    cases h
    rfl

theorem parseFields_nil (T : Tables) (acc : MMap) : parseFields T acc [] = .ok acc := rfl

theorem parseFields_cons_ok_iff (T : Tables) (acc : MMap) (f : Str) (fs : List Str) (m : MMap) :
    parseFields T acc (f :: fs) = .ok m ↔
      ∃ acc', parseField T acc f = .ok acc' ∧ parseFields T acc' fs = .ok m := by
  rw [parseFields]
  cases h : parseField T acc f with
  | error e => simp
  | ok a => simp

theorem parseFields_cons_error_iff (T : Tables) (acc : MMap) (f : Str) (fs : List Str) (e : Err) :
    parseFields T acc (f :: fs) = .error e ↔
      parseField T acc f = .error e ∨
        ∃ acc', parseField T acc f = .ok acc' ∧ parseFields T acc' fs = .error e := by
  rw [parseFields]
  cases h : parseField T acc f with
  | error e' => simp
  | ok a => simp

/-- all that the "duplicate metric" test amounts to: the keys of the whole map stay distinct -/
theorem parseFields_acc_ok_iff (T : Tables) (hT : T.wf = true) (fs : List Str) (acc m : MMap)
    (hacc : (keys acc).Nodup) :
    parseFields T acc fs = .ok m ↔
      ∃ m', m = acc ++ m' ∧ fs = m'.map fieldOf ∧ (∀ kv ∈ m', LegalPair T kv) ∧ (keys (acc ++ m')).Nodup := by
  induction fs generalizing acc with
  | nil =>
    rw [parseFields_nil]
    constructor
    · rintro ⟨⟩
      exact ⟨[], by simp, rfl, by simp, by simpa using hacc⟩
    · rintro ⟨m', rfl, hfs, -⟩
      rw [List.map_eq_nil_iff.1 hfs.symm, List.append_nil]
  | cons f fs ih =>
    rw [parseFields_cons_ok_iff]
    constructor
    · rintro ⟨acc', hf, hrest⟩
      obtain ⟨kv, rfl, hleg, hk, rfl⟩ := (parseField_ok_iff T hT _ _ _).1 hf
      obtain ⟨m'', rfl, rfl, hleg', hnd⟩ := (ih _ ((nodup_keys_append_singleton acc kv).2 ⟨hacc, hk⟩)).1 hrest
      exact ⟨kv :: m'', by simp, rfl, List.forall_mem_cons.2 ⟨hleg, hleg'⟩, by simpa using hnd⟩
    · rintro ⟨m', rfl, hfs, hleg, hnd⟩
      cases m' with
      | nil => simp at hfs
      | cons kv m'' =>
        obtain ⟨rfl, rfl⟩ := List.cons.inj hfs
        have hnd' : (keys ((acc ++ [kv]) ++ m'')).Nodup := by simpa using hnd
        have hacc' : (keys (acc ++ [kv])).Nodup := by
          rw [keys_append] at hnd'; exact (List.nodup_append.1 hnd').1
        exact ⟨acc ++ [kv], (parseField_ok_iff T hT _ _ _).2
            ⟨kv, rfl, hleg kv (by simp), ((nodup_keys_append_singleton acc kv).1 hacc').2, rfl⟩,
          (ih _ hacc').2 ⟨m'', by simp, rfl, fun x hx => hleg x (List.mem_cons_of_mem _ hx), hnd'⟩⟩

theorem parseFields_acc_error (T : Tables) (hT : T.wf = true) (fs : List Str) (acc : MMap) (e : Err)
    (h : parseFields T acc fs = .error e) : e = .malformed := by
  induction fs generalizing acc with
  | nil => cases h
  | cons f fs ih =>
    rcases (parseFields_cons_error_iff _ _ _ _ _).1 h with h | ⟨acc', _, h⟩
    · exact parseField_error T hT _ _ _ h
    · exact ih _ h

theorem parseFields_ok_iff (T : Tables) (hT : T.wf = true) (fs : List Str) (m : MMap) :
    parseFields T [] fs = .ok m ↔
      fs = m.map fieldOf ∧ (∀ kv ∈ m, LegalPair T kv) ∧ (keys m).Nodup := by
  rw [parseFields_acc_ok_iff T hT fs [] m List.nodup_nil]
  simp only [List.nil_append, exists_eq_left']

/-- a prefix is one '/'-free piece and a '/', so that `split("/")[1:]` drops exactly it -/
def PfxOk (pfxs : List Str) : Prop :=
  (∀ p ∈ pfxs, p = p.dropLast ++ ['/'] ∧ '/' ∉ p.dropLast) ∧ pfxs.Nodup

instance (pfxs : List Str) : Decidable (PfxOk pfxs) := by unfold PfxOk; infer_instance

theorem PfxOk.split {pfxs : List Str} (hp : PfxOk pfxs) {p : Str} (h : p ∈ pfxs) : ∃ p0, p = p0 ++ ['/'] ∧ '/' ∉ p0 :=
  ⟨p.dropLast, hp.1 p h⟩

theorem fieldOf_ne_nil (kv : Str × Str) : fieldOf kv ≠ [] := by simp [fieldOf]

theorem render_facts (m : MMap) (hne : m ≠ []) (hs : ∀ kv ∈ m, '/' ∉ kv.1 ∧ '/' ∉ kv.2) :
    m.map fieldOf ≠ [] ∧ (∀ f ∈ m.map fieldOf, '/' ∉ f) ∧ (∀ f ∈ m.map fieldOf, f ≠ []) := by
  refine ⟨by simpa using hne, ?_, ?_⟩
  · intro f hf
    obtain ⟨kv, hkv, rfl⟩ := List.mem_map.1 hf
    have : '/' ≠ ':' := by decide
    simp [fieldOf, hs kv hkv, this]
  · intro f hf
    obtain ⟨kv, _, rfl⟩ := List.mem_map.1 hf
    exact fieldOf_ne_nil kv

theorem render_ne_nil (m : MMap) (hne : m ≠ []) : join '/' (m.map fieldOf) ≠ [] := by
  cases m with
  | nil => exact absurd rfl hne
  | cons kv r => exact join_ne_nil _ _ ⟨fieldOf kv, by simp, fieldOf_ne_nil kv⟩

/-- what `parse_vector` guarantees of the map it fills -/
structure Parsed (T : Tables) (m : MMap) : Prop where
  ne : m ≠ []
  legal : ∀ kv ∈ m, LegalPair T kv
  nodup : (keys m).Nodup

/-- what `check_mandatory` adds: the invariant of the original metric map of every constructed object -/
structure Accepted (T : Tables) (m : MMap) : Prop extends Parsed T m where
  mandatory : ∀ k ∈ T.mandatory, k ∈ keys m

/-- true of tables pinned to a clean vocabulary (`C04.Pinned.slashFreeLegal`); only then does every legal map parse back
    from its rendering -/
def SlashFreeLegal (T : Tables) : Prop := ∀ kv, LegalPair T kv → '/' ∉ kv.1 ∧ '/' ∉ kv.2

theorem fieldOf_inj {T : Tables} {a b : Str × Str} (ha : LegalPair T a) (hb : LegalPair T b)
    (h : fieldOf a = fieldOf b) : a = b := by
  obtain ⟨a1, a2⟩ := a
  obtain ⟨b1, b2⟩ := b
  have h1 : splitOn ':' (fieldOf (a1, a2)) = [a1, a2] :=
    (splitOn_eq_pair_iff _ _ _ _).2 ⟨rfl, ha.2.2.1, ha.2.2.2⟩
  have h2 : splitOn ':' (fieldOf (b1, b2)) = [b1, b2] :=
    (splitOn_eq_pair_iff _ _ _ _).2 ⟨rfl, hb.2.2.1, hb.2.2.2⟩
  rw [h, h2] at h1
  simp only [List.cons.injEq, and_true] at h1
  rw [h1.1, h1.2]

theorem map_fieldOf_inj {T : Tables} (l₁ l₂ : MMap) (c1 : ∀ kv ∈ l₁, LegalPair T kv) (c2 : ∀ kv ∈ l₂, LegalPair T kv)
    (h : l₁.map fieldOf = l₂.map fieldOf) : l₁ = l₂ := by
  induction l₁ generalizing l₂ with
  | nil =>
    cases l₂ with
    | nil => rfl
    | cons b r => simp at h
  | cons a r ih =>
    cases l₂ with
    | nil => simp at h
    | cons b r' =>
      simp only [List.map_cons, List.cons.injEq] at h
      rw [fieldOf_inj (c1 a (by simp)) (c2 b (by simp)) h.1,
        ih r' (fun kv hkv => c1 kv (List.mem_cons_of_mem _ hkv)) (fun kv hkv => c2 kv (List.mem_cons_of_mem _ hkv)) h.2]

theorem Parsed.render_inj {T : Tables} (hsf : SlashFreeLegal T) {m₁ m₂ : MMap} (h₁ : Parsed T m₁) (h₂ : Parsed T m₂)
    (h : join '/' (m₁.map fieldOf) = join '/' (m₂.map fieldOf)) : m₁ = m₂ := by
  obtain ⟨a1, a2, -⟩ := render_facts m₁ h₁.ne (fun kv hkv => hsf kv (h₁.legal kv hkv))
  obtain ⟨b1, b2, -⟩ := render_facts m₂ h₂.ne (fun kv hkv => hsf kv (h₂.legal kv hkv))
  have := congrArg (splitOn '/') h
  rw [splitOn_join _ _ a1 a2, splitOn_join _ _ b1 b2] at this
  exact map_fieldOf_inj m₁ m₂ h₁.legal h₂.legal this

theorem Accepted.keys_subset {T : Tables} {m : MMap} (h : Accepted T m) : ∀ k ∈ keys m, k ∈ T.abbrs := by
  intro k hk
  obtain ⟨kv, hkv, rfl⟩ := List.mem_map.1 hk
  exact (h.legal kv hkv).1

theorem assignment_of_none {nd : Str} {m : MMap} {k : Str} (h : lookup k m = none) : assignment nd m k = nd := by
  simp [assignment, h]

theorem assignment_of_some {nd : Str} {m : MMap} {k v : Str} (h : lookup k m = some v) : assignment nd m k = v := by
  simp [assignment, h]

theorem Accepted.assignment_off {T : Tables} {m : MMap} (acc : Accepted T m) (nd : Str) {k : Str}
    (hk : k ∉ T.abbrs) : assignment nd m k = nd :=
  assignment_of_none ((lookup_eq_none_iff _ _).2 (fun hmem => hk (acc.keys_subset k hmem)))

/-- the form in which the scoring theorems take the invariant: `C01.ValidMap`, `C02.ValidMap`, `C03.ValidMap`
    and `Lemmas.V4.Valid` are this statement at their tables -/
theorem Accepted.valid {T : Tables} {m : MMap} (h : Accepted T m) :
    (∀ k v, lookup k m = some v → ∃ vs, lookup k T.legal = some vs ∧ v ∈ vs) ∧
    (∀ k ∈ T.mandatory, (lookup k m).isSome) :=
  ⟨fun k v hk => (h.legal (k, v) (lookup_mem hk)).2.1,
   fun k hk => (lookup_isSome_iff_mem_keys m k).2 (h.mandatory k hk)⟩

/-- `hv` is the statement of `Accepted.valid` -/
theorem legal_getD {T : Tables} {m : MMap}
    (hv : (∀ k v, lookup k m = some v → ∃ vs, lookup k T.legal = some vs ∧ v ∈ vs) ∧
      ∀ k ∈ T.mandatory, (lookup k m).isSome)
    {k nd : Str} (hk : k ∈ T.mandatory ∨ nd ∈ (lookup k T.legal).getD []) :
    (lookup k m).getD nd ∈ (lookup k T.legal).getD [] := by
  cases hl : lookup k m with
  | some v =>
    obtain ⟨vs, h1, h2⟩ := hv.1 k v hl
    rw [h1]
    exact h2
  | none => exact hk.elim (fun h => absurd (hv.2 k h) (by simp [hl])) id

theorem Accepted.perm {T : Tables} {m m' : MMap} (h : Accepted T m) (hp : m.Perm m') : Accepted T m' where
  ne := fun e => h.ne (e ▸ hp).eq_nil
  legal := fun kv hkv => h.legal kv (hp.mem_iff.2 hkv)
  nodup := (hp.map (fun p : Str × Str => p.1)).nodup_iff.1 h.nodup
  mandatory := fun k hk => (hp.map (fun p : Str × Str => p.1)).mem_iff.1 (h.mandatory k hk)

theorem Accepted.append {T : Tables} {m : MMap} {kv : Str × Str} (h : Accepted T m) (hkv : LegalPair T kv)
    (habs : lookup kv.1 m = none) : Accepted T (m ++ [kv]) where
  ne := by simp
  legal := fun x hx => (List.mem_append.1 hx).elim (h.legal x) (fun hx => List.mem_singleton.1 hx ▸ hkv)
  nodup := (nodup_keys_append_singleton m kv).2 ⟨h.nodup, (lookup_eq_none_iff _ _).1 habs⟩
  mandatory := fun k hk => by rw [keys_append]; exact List.mem_append_left _ (h.mandatory k hk)

theorem splitOn_pfx (p0 rest : Str) (h : '/' ∉ p0) :
    splitOn '/' ((p0 ++ ['/']) ++ rest) = p0 :: splitOn '/' rest := by
  rw [List.append_assoc]
  exact splitOn_append_sep '/' p0 rest h

/-- a string is found behind its own prefix: no accepted prefix is a prefix of another -/
theorem PfxOk.findIdx {pfxs : List Str} (hp : PfxOk pfxs) {i : Nat} {p : Str} (hpi : pfxs[i]? = some p)
    (rest : Str) : pfxs.findIdx? (fun q => startsWith q (p ++ rest)) = some i := by
  obtain ⟨hlt, hpe⟩ := List.getElem?_eq_some_iff.1 hpi
  obtain ⟨p0, hp0, hp0'⟩ := hp.split (List.mem_of_getElem? hpi)
  rw [List.findIdx?_eq_some_iff_getElem]
  refine ⟨hlt, ?_, ?_⟩
  · rw [hpe]; exact (startsWith_iff _ _).2 ⟨_, rfl⟩
  · intro j hji hsw
    have hjlt : j < pfxs.length := Nat.lt_trans hji hlt
    obtain ⟨r, hr⟩ := (startsWith_iff _ _).1 hsw
    obtain ⟨q0, hq0, hq0'⟩ := hp.split (List.getElem_mem hjlt)
    -- both strings start with a '/'-free token followed by '/': the tokens are the first split piece
    have := congrArg (splitOn '/') hr
    rw [hq0, hp0, splitOn_pfx _ _ hp0', splitOn_pfx _ _ hq0'] at this
    have heq : pfxs[j] = pfxs[i] := by rw [hq0, hpe, hp0, (List.cons.inj this).1]
    exact List.pairwise_iff_getElem.1 (List.nodup_iff_pairwise_ne.1 hp.2) j i hjlt hlt hji heq

theorem parseNoPrefix_cases (T : Tables) (s : Str) :
    parseNoPrefix T s = .error .malformed ∨
      (s ≠ [] ∧ endsWithChar '/' s = false ∧ parseNoPrefix T s = parseFields T [] (splitOn '/' s)) := by
  unfold parseNoPrefix
  by_cases hs : s = []
  · simp [hs]
  · cases he : endsWithChar '/' s <;> simp [hs]

theorem parseNoPrefix_ok_iff {T : Tables} (hT : T.wf = true) (hsf : SlashFreeLegal T) (s : Str) (m : MMap) :
    parseNoPrefix T s = .ok m ↔ s = join '/' (m.map fieldOf) ∧ Parsed T m := by
  constructor
  · intro h
    rcases parseNoPrefix_cases T s with he | ⟨-, -, he⟩
    · rw [he] at h; cases h
    · obtain ⟨hfs, hl, hn⟩ := (parseFields_ok_iff T hT _ _).1 (he ▸ h)
      exact ⟨by rw [← hfs, join_splitOn], fun e => splitOn_ne_nil _ _ (e ▸ hfs), hl, hn⟩
  · rintro ⟨rfl, hne, hl, hn⟩
    obtain ⟨h1, h2, h3⟩ := render_facts m hne (fun kv hkv => hsf kv (hl kv hkv))
    unfold parseNoPrefix
    rw [if_neg (render_ne_nil m hne), endsWithChar_join _ _ h2 h3, splitOn_join _ _ h1 h2]
    simp only [Bool.false_eq_true, if_false]
    exact (parseFields_ok_iff T hT _ _).2 ⟨rfl, hl, hn⟩

theorem parseNoPrefix_error (T : Tables) (hT : T.wf = true) (s : Str) (e : Err)
    (h : parseNoPrefix T s = .error e) : e = .malformed := by
  rcases parseNoPrefix_cases T s with he | ⟨-, -, he⟩
  · rw [he] at h; cases h; rfl
  · exact parseFields_acc_error T hT _ [] _ (he ▸ h)

/-- the key lemma: behind a prefix the parser with prefixes is the one without, run on the rest (for the empty rest both
    sides say malformed, because the prefix itself ends in '/') -/
theorem parseWithPrefix_pfx {pfxs : List Str} (hp : PfxOk pfxs) (T : Tables) {i : Nat} {p : Str}
    (hpi : pfxs[i]? = some p) (rest : Str) :
    parseWithPrefix T pfxs (p ++ rest) = (parseNoPrefix T rest).map (fun m => (i, m)) := by
  obtain ⟨p0, rfl, hp0⟩ := hp.split (List.mem_of_getElem? hpi)
  unfold parseWithPrefix parseNoPrefix
  rw [hp.findIdx hpi, splitOn_pfx _ _ hp0, if_neg (by simp)]
  by_cases hr : rest = []
  · subst hr
    have hend : endsWithChar '/' (p0 ++ ['/'] ++ []) = true := by simp [endsWithChar]
    rw [hend, if_pos rfl, if_pos rfl]
    rfl
  · rw [endsWithChar_append _ _ _ hr, if_neg hr]
    cases endsWithChar '/' rest
    · simp only [List.drop_succ_cons, List.drop_zero]
      cases parseFields T [] (splitOn '/' rest) <;> rfl
    · rfl

theorem parseWithPrefix_cases (T : Tables) (pfxs : List Str) (s : Str) :
    parseWithPrefix T pfxs s = .error .malformed ∨ ∃ (i : Nat) (p rest : Str), pfxs[i]? = some p ∧ s = p ++ rest := by
  cases hi : pfxs.findIdx? (fun p => startsWith p s) with
  | none =>
    unfold parseWithPrefix
    simp only [hi, ite_self]
    exact .inl trivial
  | some i =>
    obtain ⟨hlt, hsw, -⟩ := List.findIdx?_eq_some_iff_getElem.1 hi
    exact .inr ⟨i, _, _, List.getElem?_eq_getElem hlt, ((startsWith_iff _ _).1 hsw).choose_spec⟩

theorem parseWithPrefix_ok_iff {T : Tables} (hT : T.wf = true) (hsf : SlashFreeLegal T) {pfxs : List Str}
    (hp : PfxOk pfxs) (s : Str) (i : Nat) (m : MMap) :
    parseWithPrefix T pfxs s = .ok (i, m) ↔
      (∃ p, pfxs[i]? = some p ∧ s = p ++ join '/' (m.map fieldOf)) ∧ Parsed T m := by
  constructor
  · intro h
    rcases parseWithPrefix_cases T pfxs s with he | ⟨j, p, rest, hpj, rfl⟩
    · rw [he] at h; cases h
    · rw [parseWithPrefix_pfx hp T hpj] at h
      obtain ⟨m', hm', e⟩ := map_ok_iff.1 h
      cases e
      obtain ⟨rfl, hP⟩ := (parseNoPrefix_ok_iff hT hsf _ _).1 hm'
      exact ⟨⟨p, hpj, rfl⟩, hP⟩
  · rintro ⟨⟨p, hpi, rfl⟩, hP⟩
    rw [parseWithPrefix_pfx hp T hpi, (parseNoPrefix_ok_iff hT hsf _ _).2 ⟨rfl, hP⟩]
    rfl

theorem parseWithPrefix_error {T : Tables} (hT : T.wf = true) {pfxs : List Str} (hp : PfxOk pfxs) (s : Str) (e : Err)
    (h : parseWithPrefix T pfxs s = .error e) : e = .malformed := by
  rcases parseWithPrefix_cases T pfxs s with he | ⟨j, p, rest, hpj, rfl⟩
  · rw [he] at h; cases h; rfl
  · rw [parseWithPrefix_pfx hp T hpj] at h
    exact parseNoPrefix_error T hT _ e (map_error_iff.1 h)

theorem all_hasKey_iff (ks : List Str) (m : MMap) :
    (ks.all fun k => hasKey k m) = true ↔ ∀ k ∈ ks, k ∈ keys m := by
  simp only [List.all_eq_true, hasKey_iff_mem_keys]

theorem checkMandatory_ok_iff (T : Tables) (m : MMap) :
    checkMandatory T m = .ok () ↔ ∀ k ∈ T.mandatory, k ∈ keys m := by
  unfold checkMandatory
  rw [← all_hasKey_iff]
  split <;> simp [*]

theorem checkMandatory_error_iff (T : Tables) (m : MMap) (e : Err) :
    checkMandatory T m = .error e ↔ e = .mandatory ∧ ∃ k ∈ T.mandatory, k ∉ keys m := by
  have hex : (∃ k ∈ T.mandatory, k ∉ keys m) ↔ ¬ (T.mandatory.all fun k => hasKey k m) = true := by
    rw [all_hasKey_iff]; simp
  unfold checkMandatory
  rw [hex]
  split <;> simp [*, eq_comm]

/-- `check_mandatory` after a parser, as in `V2.parse`, `V3.parse` (`proj`: v3 returns `(i, m)`); `V4.parse` drops `i` -/
def thenMandatory {α : Type} (T : Tables) (proj : α → MMap) : Except Err α → Except Err α
  | .error e => .error e
  | .ok r =>
    match checkMandatory T (proj r) with
    | .error e => .error e
    | .ok _ => .ok r

theorem thenMandatory_ok_iff {α : Type} (T : Tables) (proj : α → MMap) (x : Except Err α) (r : α) :
    thenMandatory T proj x = .ok r ↔ x = .ok r ∧ ∀ k ∈ T.mandatory, k ∈ keys (proj r) := by
  rw [← checkMandatory_ok_iff]
  cases x with
  | error e => simp [thenMandatory]
  | ok r' =>
    simp only [thenMandatory]
    cases hc : checkMandatory T (proj r') with
    | error e =>
      simp only [reduceCtorEq, false_iff]
      rintro ⟨h, h'⟩
      cases h
      rw [hc] at h'
      cases h'
    | ok u => simp only [Except.ok.injEq]; exact ⟨fun h => ⟨h, h ▸ hc⟩, fun h => h.1⟩

theorem thenMandatory_error_iff {α : Type} (T : Tables) (proj : α → MMap) (x : Except Err α) (e : Err) :
    thenMandatory T proj x = .error e ↔
      x = .error e ∨ ∃ r, x = .ok r ∧ e = .mandatory ∧ ∃ k ∈ T.mandatory, k ∉ keys (proj r) := by
  cases x with
  | error e' => simp [thenMandatory]
  | ok r =>
    simp only [thenMandatory, reduceCtorEq, false_or, Except.ok.injEq, exists_eq_left']
    rw [← checkMandatory_error_iff]
    cases checkMandatory T (proj r) <;> simp

theorem thenMandatory_error {α : Type} (T : Tables) (proj : α → MMap) {x : Except Err α}
    (hx : ∀ e, x = .error e → e = .malformed) :
    (thenMandatory T proj x = .error .mandatory ↔ ∃ r, x = .ok r ∧ ∃ k ∈ T.mandatory, k ∉ keys (proj r)) ∧
    ∀ e, thenMandatory T proj x = .error e → e = .malformed ∨ e = .mandatory := by
  refine ⟨?_, fun e he => ?_⟩
  · rw [thenMandatory_error_iff]
    constructor
    · rintro (h | ⟨r, h1, -, h2⟩)
      · cases hx _ h
      · exact ⟨r, h1, h2⟩
    · exact fun ⟨r, h1, h2⟩ => Or.inr ⟨r, h1, rfl, h2⟩
  · rcases (thenMandatory_error_iff ..).1 he with h | ⟨_, -, rfl, -⟩
    · exact Or.inl (hx e h)
    · exact Or.inr rfl

end Cvss.Model
