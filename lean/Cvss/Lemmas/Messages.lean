/-
  The message-carrying parser (`Model/Messages.lean`) against the message-free one (`Model/Parse.lean`): they
  run the same tests in the same order, so `PRel` (same map, or a text that is the mandatory-metric message
  exactly for the mandatory class) is carried through the tests (`PRel.ite`), the steps (`PRel.bind`) and the
  leaves (`PRel.error`).  Last, the printed dialogue (`Model/Prompts.lean`) against `Interactive.loop`.
-/
import Cvss.Model.Prompts
namespace Cvss.Lemmas.Messages
open Cvss Cvss.Model Cvss.Model.Messages

def IsMand (e : Str) : Prop := ∃ rest, e = c!"Missing mandatory metrics " ++ rest

def PRel {β : Type} (proj : β → MMap) : Except Str MMap → Except Err β → Prop
  | .ok a, .ok b => a = proj b
  | .error e, .error x => (IsMand e ↔ x = .mandatory)
  | _, _ => False

theorem PRel.malformed {β : Type} (proj : β → MMap) {e : Str} (h : e.take 2 ≠ ['M', 'i']) :
    PRel proj (.error e) (.error .malformed) := by
  refine ⟨?_, nofun⟩
  rintro ⟨r, rfl⟩
  exact absurd rfl h

/-- `IsMand` as a test that evaluates on the head of the text -/
def isMand (e : Str) : Bool := c!"Missing mandatory metrics ".isPrefixOf e

theorem isMand_iff (e : Str) : isMand e = true ↔ IsMand e := by
  rw [isMand, List.isPrefixOf_iff_prefix]
  exact ⟨fun ⟨t, ht⟩ => ⟨t, ht.symm⟩, fun ⟨t, ht⟩ => ⟨t, ht.symm⟩⟩

theorem PRel.error {β : Type} {proj : β → MMap} {e : Str} {x : Err} (h : isMand e = (x == .mandatory)) :
    PRel proj (.error e) (.error x) := by
  show IsMand e ↔ _
  rw [← isMand_iff, h, beq_iff_eq]

theorem PRel.ite {β : Type} {proj : β → MMap} (c : Prop) [Decidable c] {x x' : Except Str MMap}
    {y y' : Except Err β} (ht : PRel proj x y) (he : PRel proj x' y') :
    PRel proj (if c then x else x') (if c then y else y') := by
  split
  · exact ht
  · exact he

theorem PRel.cases {β : Type} {proj : β → MMap} {x : Except Str MMap} {y : Except Err β} (h : PRel proj x y) :
    (∃ e e', x = .error e ∧ y = .error e' ∧ (IsMand e ↔ e' = .mandatory)) ∨
      ∃ b, x = .ok (proj b) ∧ y = .ok b := by
  cases x <;> cases y
  · exact .inl ⟨_, _, rfl, rfl, h⟩
  · exact h.elim
  · exact h.elim
  · exact .inr ⟨_, congrArg _ h, rfl⟩

theorem PRel.bind {γ : Type} {proj : γ → MMap} {x : Except Str MMap} {y : Except Err MMap}
    {k : MMap → Except Str MMap} {k' : MMap → Except Err γ} (hk : ∀ m, PRel proj (k m) (k' m)) :
    PRel id x y → PRel proj (match x with | .error e => .error e | .ok m => k m)
      (match y with | .error e => .error e | .ok m => k' m) := by
  intro h
  obtain ⟨e, e', rfl, rfl, he⟩ | ⟨m, rfl, rfl⟩ := h.cases
  · exact he
  · exact hk _

theorem PRel.ok_iff {β : Type} {proj : β → MMap} {x : Except Str MMap} {y : Except Err β}
    (h : PRel proj x y) (m : MMap) : x = .ok m ↔ ∃ b, y = .ok b ∧ proj b = m := by
  obtain ⟨e, e', rfl, rfl, -⟩ | ⟨b, rfl, rfl⟩ := h.cases
  · simp
  · simp [eq_comm]

theorem PRel.mand_iff {β : Type} {proj : β → MMap} {x : Except Str MMap} {y : Except Err β}
    (h : PRel proj x y) : (∃ e, x = .error e ∧ IsMand e) ↔ y = .error .mandatory := by
  obtain ⟨e, e', rfl, rfl, he⟩ | ⟨b, rfl, rfl⟩ := h.cases
  · simp [he]
  · simp

theorem PRel.exists_ok_iff {β : Type} {proj : β → MMap} {x : Except Str MMap} {y : Except Err β}
    (h : PRel proj x y) : (∃ m, x = .ok m) ↔ ∃ b, y = .ok b := by
  constructor
  · rintro ⟨m, hm⟩
    obtain ⟨b, hb, -⟩ := (h.ok_iff m).1 hm
    exact ⟨b, hb⟩
  · rintro ⟨b, hb⟩
    exact ⟨proj b, (h.ok_iff _).2 ⟨b, hb, rfl⟩⟩

theorem PRel.lift {β γ : Type} {proj : β → MMap} {proj' : γ → MMap} {x : Except Str MMap}
    {y : Except Err β} {z : Except Err γ} (h : PRel proj x y)
    (hok : ∀ b, y = .ok b → ∃ c, z = .ok c ∧ proj' c = proj b) (herr : ∀ e, y = .error e → z = .error e) :
    PRel proj' x z := by
  obtain ⟨e, e', rfl, rfl, he⟩ | ⟨b, rfl, rfl⟩ := h.cases
  · rw [herr _ rfl]
    exact he
  · obtain ⟨c, hc, hp⟩ := hok _ rfl
    rw [hc]
    exact hp.symm

theorem fieldMsg_rel (v : Ver) (vec : Str) (acc : MMap) (f : Str) :
    PRel id (fieldMsg v vec acc f) (parseField (tablesOf v) acc f) := by
  unfold fieldMsg parseField
  generalize tablesOf v = T
  refine .ite _ (.error rfl) ?_
  generalize splitOn ':' f = l
  rcases l with _ | ⟨m, _ | ⟨val, _ | ⟨x, l⟩⟩⟩
  · exact .error rfl
  · exact .error rfl
  · refine .ite _ (.ite _ (.error rfl) ?_) (.ite _ ?_ (.error rfl))
    · cases lookup m T.legal with
      | none => exact .error rfl
      | some vs => exact .ite _ rfl (.error rfl)
    · cases lookup m T.legal with
      | none => exact .error rfl
      | some vs => exact .ite _ (.ite _ (.error rfl) rfl) (.error rfl)
  · exact .error rfl

theorem fieldsMsg_rel (v : Ver) (vec : Str) (fs : List Str) (acc : MMap) :
    PRel id (fieldsMsg v vec acc fs) (parseFields (tablesOf v) acc fs) := by
  induction fs generalizing acc with
  | nil => exact rfl
  | cons f fs ih =>
    rw [fieldsMsg, parseFields]
    exact PRel.bind ih (fieldMsg_rel v vec acc f)

theorem missing_nil_iff (T : Tables) (m : MMap) :
    T.mandatory.filter (fun k => !hasKey k m) = [] ↔ T.mandatory.all (fun k => hasKey k m) = true := by
  simp [List.filter_eq_nil_iff, List.all_eq_true]

/-- the common tail of the three parsers: field loop, then the mandatory check -/
theorem tail_rel {β : Type} (v : Ver) (s : Str) (fs : List Str) (mk : MMap → β) (proj : β → MMap)
    (hp : ∀ m, proj (mk m) = m) :
    PRel proj
      (match fieldsMsg v s [] fs with
        | .error e => .error e
        | .ok m =>
          if (tablesOf v).mandatory.filter (fun k => !hasKey k m) = [] then .ok m
          else .error (c!"Missing mandatory metrics " ++
            q (((tablesOf v).mandatory.filter (fun k => !hasKey k m)).foldl
              (fun acc k => if acc = [] then k else acc ++ c!", " ++ k) [])))
      (match parseFields (tablesOf v) [] fs with
        | .error e => .error e
        | .ok m =>
          match checkMandatory (tablesOf v) m with
          | .error e => .error e
          | .ok _ => .ok (mk m)) := by
  refine PRel.bind (fun m => ?_) (fieldsMsg_rel v s fs [])
  simp only [checkMandatory]
  by_cases hm : (tablesOf v).mandatory.filter (fun k => !hasKey k m) = []
  · rw [if_pos hm, if_pos ((missing_nil_iff _ _).1 hm)]
    exact (hp m).symm
  · rw [if_neg hm, if_neg (fun h => hm ((missing_nil_iff _ _).2 h))]
    exact ⟨fun _ => rfl, fun _ => ⟨_, rfl⟩⟩

theorem parseMsg_rel_v2 (s : Str) : PRel id (parseMsg .v2 s) (V2.parse s) := by
  unfold parseMsg V2.parse parseNoPrefix
  by_cases h : s = []
  · rw [if_pos h, if_pos h]
    exact .error rfl
  · rw [if_neg h, if_neg h]
    cases endsWithChar '/' s
    · rw [if_neg Bool.false_ne_true, if_neg Bool.false_ne_true]
      exact tail_rel .v2 s (splitOn '/' s) id id (fun _ => rfl)
    · rw [if_pos rfl, if_pos rfl]
      exact .error rfl

theorem parseMsg_rel_pfx {β : Type} (v : Ver) (hv : v ≠ .v2) (s : Str) (mk : Nat → MMap → β)
    (proj : β → MMap) (hp : ∀ i m, proj (mk i m) = m) :
    PRel proj (parseMsg v s)
      (match parseWithPrefix (tablesOf v) (prefixesOf v) s with
        | .error e => .error e
        | .ok (i, m) =>
          match checkMandatory (tablesOf v) m with
          | .error e => .error e
          | .ok _ => .ok (mk i m)) := by
  unfold parseMsg parseWithPrefix
  by_cases h : s = []
  · rw [if_pos h, if_pos h]
    exact .error rfl
  · rw [if_neg h, if_neg h]
    cases endsWithChar '/' s
    · -- `simp only` also takes the second branch of `match v with | .v2 => _ | _ => _`, by `hv`
      simp only [Bool.false_eq_true, if_false, ← List.findIdx?_isSome]
      cases (prefixesOf v).findIdx? (fun p => startsWith p s) with
      | none =>
        simp only [Option.isSome_none, Bool.false_eq_true, if_false]
        exact .error rfl
      | some i =>
        simp only [Option.isSome_some, if_true]
        have := tail_rel v s ((splitOn '/' s).drop 1) (mk i) proj (hp i)
        revert this
        cases parseFields (tablesOf v) [] ((splitOn '/' s).drop 1) <;> exact id
    · rw [if_pos rfl, if_pos rfl]
      exact .error rfl

theorem parseMsg_rel_v3 (s : Str) : PRel Prod.snd (parseMsg .v3 s) (V3.parse s) :=
  parseMsg_rel_pfx .v3 (by decide) s Prod.mk Prod.snd (fun _ _ => rfl)

theorem parseMsg_rel_v4 (s : Str) : PRel id (parseMsg .v4 s) (V4.parse s) :=
  parseMsg_rel_pfx .v4 (by decide) s (fun _ m => m) id (fun _ _ => rfl)

open Cvss.Model.Interactive Cvss.Model.Prompts in
/-- `h`: `dialogueLoop` looks the metric up in `METRICS_ABBREVIATIONS` first, a KeyError `loop` does not
    model; `C17.dialogue_vector` discharges it from `C16.agree` -/
theorem dialogueLoop_loop (v : IVer) (nc : Bool) (ms : List Str)
    (h : ∀ m ∈ ms, (lookup m (abbrNamesOf v)).isSome = true) (answers : List Str) (out : Str)
    (fields : List Str) (asked : List (Str × Nat)) :
    (dialogueLoop v nc ms answers out fields).2.map (fun fs => prefixOf v ++ join '/' fs) =
      match loop v ms answers fields asked with
      | .result vec _ _ => some vec
      | _ => none := by
  induction ms generalizing answers out fields asked with
  | nil => simp [dialogueLoop, loop]
  | cons m ms ih =>
    obtain ⟨full, hfull⟩ := Option.isSome_iff_exists.1 (h m (by simp))
    rw [dialogueLoop, loop]
    simp only [hfull]
    cases lookup m (valueNamesOf v) with
    | none => rfl
    | some row =>
      simp only []
      cases askOne v (keys row) answers with
      | none => rfl
      | some t =>
        obtain ⟨x, rest, n⟩ := t
        simp only []
        exact ih (fun m' hm' => h m' (List.mem_cons_of_mem _ hm')) _ _ _ _

end Cvss.Lemmas.Messages
