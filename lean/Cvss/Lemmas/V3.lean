/-
  `add_missing_optional` of cvss3.py (the first loop of cvss4.py's is the same function, `Lemmas.V4.fillModified_eq`) as a
  statement about look-ups.
-/
import Cvss.Model.V3
import Cvss.Model.V4
import Cvss.Lemmas.Str
namespace Cvss.Lemmas.V3
open Cvss Cvss.Model

/-- one round of `add_missing_optional` (`none` ⇔ KeyError: the base metric is absent too) -/
theorem addMissingOptional_cons (m : MMap) (a : Str) (rest : List Str) :
    V3.addMissingOptional m (a :: rest) =
      if (lookup a m).getD V3.X = V3.X then
        (lookup (a.drop 1) m).bind fun b => V3.addMissingOptional (Cvss.insert a b m) rest
      else V3.addMissingOptional m rest := by
  rw [V3.addMissingOptional]
  cases hla : lookup a m with
  | none =>
    cases lookup (a.drop 1) m <;> simp only [Option.getD_none, ↓reduceIte, Option.bind_none, Option.bind_some]
  | some v =>
    by_cases hvX : v = V3.X
    · cases lookup (a.drop 1) m <;>
        simp only [hvX, Option.getD_some, ↓reduceIte, Option.bind_none, Option.bind_some]
    · simp only [hvX, Option.getD_some, ↓reduceIte]

theorem addMissingOptional_spec (l : List Str) :
    l.Nodup → (∀ a ∈ l, a.drop 1 ∉ l) →
    ∀ m : MMap, (∀ a ∈ l, (lookup (a.drop 1) m).isSome) →
    ∃ full, V3.addMissingOptional m l = some full ∧
      ∀ k, lookup k full =
        if k ∈ l ∧ (lookup k m).getD V3.X = V3.X then lookup (k.drop 1) m else lookup k m := by
  induction l with
  | nil =>
    intro _ _ m _
    exact ⟨m, rfl, by simp⟩
  | cons a rest ih =>
    intro hnd hdrop m hbase
    have hnd' : rest.Nodup := (List.nodup_cons.mp hnd).2
    have ha_rest : a ∉ rest := (List.nodup_cons.mp hnd).1
    have hdrop' : ∀ b ∈ rest, b.drop 1 ∉ rest := fun b hb hc =>
      hdrop b (List.mem_cons_of_mem _ hb) (List.mem_cons_of_mem _ hc)
    have hbase' : ∀ b ∈ rest, (lookup (b.drop 1) m).isSome := fun b hb =>
      hbase b (List.mem_cons_of_mem _ hb)
    obtain ⟨bv, hbv⟩ := Option.isSome_iff_exists.mp (hbase a (by simp))
    rw [addMissingOptional_cons, hbv, Option.bind_some]
    by_cases hX : (lookup a m).getD V3.X = V3.X
    · -- filled: the rest runs on the map with `a ↦ bv`, which no later base name looks at
      rw [if_pos hX]
      have hb2 : ∀ b ∈ rest, (lookup (b.drop 1) (Cvss.insert a bv m)).isSome := by
        intro b hb
        rw [lookup_insert]
        split
        · rfl
        · exact hbase' b hb
      obtain ⟨full, hfull, hlk⟩ := ih hnd' hdrop' (Cvss.insert a bv m) hb2
      refine ⟨full, hfull, fun k => ?_⟩
      rw [hlk k]
      by_cases hka : k = a
      · subst hka
        have h1 : ¬ (k ∈ rest ∧ (lookup k (Cvss.insert k bv m)).getD V3.X = V3.X) :=
          fun h => ha_rest h.1
        rw [if_neg h1, lookup_insert, if_pos rfl, if_pos ⟨by simp, hX⟩, hbv]
      · by_cases hkr : k ∈ rest
        · have hd : ¬ k.drop 1 = a := fun hc =>
            hdrop k (List.mem_cons_of_mem _ hkr) (by simp [hc])
          simp only [lookup_insert, if_neg hd, List.mem_cons, hka, hkr, false_or,
            true_and, if_false]
        · simp only [lookup_insert, List.mem_cons, hka, hkr, false_or, false_and,
            if_false]
    · rw [if_neg hX]
      obtain ⟨full, hfull, hlk⟩ := ih hnd' hdrop' m hbase'
      refine ⟨full, hfull, fun k => ?_⟩
      rw [hlk k]
      by_cases hka : k = a
      · subst hka
        rw [if_neg fun h => ha_rest h.1, if_neg fun h => hX h.2]
      · simp only [List.mem_cons, hka, false_or]

end Cvss.Lemmas.V3

namespace Cvss.Lemmas.V4
open Cvss Cvss.Model

/-- cvss4.py's first loop is cvss3.py's function -/
theorem fillModified_eq (L : List Str) : ∀ m : MMap, V4.fillModified m L = V3.addMissingOptional m L := by
  induction L with
  | nil => intro m; rfl
  | cons a rest ih =>
    intro m
    rw [Lemmas.V3.addMissingOptional_cons, V4.fillModified]
    cases lookup a m with
    | none =>
      cases lookup (a.drop 1) m with
      | none => simp
      | some b => simp [ih]
    | some v =>
      by_cases hv : v = V3.X
      · cases lookup (a.drop 1) m with
        | none => simp [hv, show V4.X = V3.X from rfl]
        | some b => simp [hv, ih, show V4.X = V3.X from rfl]
      · simp [hv, ih, show V4.X = V3.X from rfl]

end Cvss.Lemmas.V4
