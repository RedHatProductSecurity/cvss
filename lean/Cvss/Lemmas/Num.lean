/-
  Numeric facts used by the scoring proofs of all versions: Python `max`/`min`, the two roundings to one
  decimal, monotone products.
-/
import Mathlib.Tactic.Linarith
import Mathlib.Tactic.NormNum
import Mathlib.Tactic.Positivity
import Mathlib.Algebra.Order.Floor.Ring
import Mathlib.Data.Rat.Floor
import Cvss.Basic
import Cvss.Lemmas.Str
namespace Cvss.Lemmas.Num
open Cvss

theorem pyMax_eq_max (a b : ℚ) : pyMax a b = max a b := by
  simp only [pyMax, max_def', gt_iff_lt, ← not_le, ite_not]

theorem pyMin_eq_min (a b : ℚ) : pyMin a b = min a b := by
  simp only [pyMin, min_def, ← not_le, ite_not]

theorem rat_floor_eq (x : ℚ) : x.floor = ⌊x⌋ := rfl

/-! Both roundings to one decimal, `Roundup` of v3 and ROUND_HALF_UP of v2 / v4, are `g (10 · x) / 10` for a
    monotone integer rounding `g`: that gives the monotonicity of both (`tenths_mono`) and, as `g` fixes 0
    and 100, the range of Roundup (`tenths_isScore`; half-up, which is clamped at 0 afterwards, gets its
    range from `roundHalfUp1_tenths`). -/

theorem tenths_mono {g : ℚ → ℤ} (hg : Monotone g) {x y : ℚ} (h : x ≤ y) :
    (g (x * 10) : ℚ) / 10 ≤ (g (y * 10) : ℚ) / 10 :=
  div_le_div_of_nonneg_right
    (Int.cast_le.2 (hg (mul_le_mul_of_nonneg_right h (by norm_num)))) (by norm_num)

theorem tenths_isScore {g : ℚ → ℤ} (hg : Monotone g) (g0 : g 0 = 0) (g100 : g 100 = 100) {x : ℚ}
    (h0 : 0 ≤ x) (h1 : x ≤ 10) : ∃ k : ℕ, k ≤ 100 ∧ (g (x * 10) : ℚ) / 10 = (k : ℚ) / 10 := by
  have a : 0 ≤ g (x * 10) := g0 ▸ hg (by linarith)
  have b : g (x * 10) ≤ 100 := g100 ▸ hg (by linarith)
  refine ⟨(g (x * 10)).toNat, by omega, ?_⟩
  rw [← Int.cast_natCast, Int.toNat_of_nonneg a]

/-- ROUND_HALF_UP to an integer: a half goes away from zero -/
def halfUp (y : ℚ) : ℤ := if 0 ≤ y then ⌊y + 1 / 2⌋ else -⌊-y + 1 / 2⌋

theorem roundHalfUp1_eq (x : ℚ) : roundHalfUp1 x = (halfUp (x * 10) : ℚ) / 10 := by
  unfold roundHalfUp1 halfUp
  have e : (0 ≤ x * 10) = (0 ≤ x) := propext ⟨fun h => by linarith, fun h => by linarith⟩
  simp only [e, rat_floor_eq]
  split_ifs
  · rfl
  · rw [Int.cast_neg, neg_mul]

theorem halfUp_mono : Monotone halfUp := by
  intro x y h
  unfold halfUp
  have hn : ∀ {u : ℚ}, 0 ≤ u → (0 : ℤ) ≤ ⌊u + 1 / 2⌋ := fun h =>
    Int.floor_nonneg.2 (add_nonneg h (by norm_num))
  split_ifs with hx hy hy
  · exact Int.floor_mono (add_le_add h le_rfl)
  · exact absurd (hx.trans h) hy
  · -- `x < 0 ≤ y`: the left side is not positive, the right side not negative
    have := hn hy
    have := hn (neg_nonneg.2 (le_of_not_ge hx))
    omega
  · exact neg_le_neg (Int.floor_mono (add_le_add (neg_le_neg h) le_rfl))

theorem roundHalfUp1_tenths (x : ℚ) (hx : x ≤ 10) :
    ∃ n : ℤ, n ≤ 100 ∧ roundHalfUp1 x = (n : ℚ) / 10 :=
  ⟨halfUp (x * 10), (halfUp_mono (by linarith : x * 10 ≤ 100)).trans (by decide +kernel),
    roundHalfUp1_eq x⟩

theorem isScore_max_round1 (y : ℚ) (hy : y ≤ 10) :
    ∃ k : Nat, k ≤ 100 ∧ max 0 (roundHalfUp1 y) = (k : ℚ) / 10 := by
  obtain ⟨n, hn, h⟩ := roundHalfUp1_tenths y hy
  -- the clamp of `n / 10` at 0 is `n.toNat / 10`
  refine ⟨n.toNat, by omega, ?_⟩
  rw [h, ← Int.cast_natCast, Int.toNat_eq_max, Int.cast_max, Int.cast_zero, max_comm,
    ← max_div_div_right (by norm_num), zero_div]

theorem roundHalfUp1_le_ten (x : ℚ) (hx : x ≤ 10) : roundHalfUp1 x ≤ 10 := by
  obtain ⟨n, hn, h⟩ := roundHalfUp1_tenths x hx
  rw [h]
  have : (n : ℚ) ≤ 100 := by exact_mod_cast hn
  linarith

theorem roundHalfUp1_zero : roundHalfUp1 0 = 0 := by decide +kernel

theorem roundHalfUp1_mono {x y : ℚ} (h : x ≤ y) : roundHalfUp1 x ≤ roundHalfUp1 y := by
  rw [roundHalfUp1_eq, roundHalfUp1_eq]
  exact tenths_mono halfUp_mono h

theorem tenths_range {x : ℚ} (h : ∃ k : Nat, k ≤ 100 ∧ x = (k : ℚ) / 10) : 0 ≤ x ∧ x ≤ 10 := by
  obtain ⟨k, hk, rfl⟩ := h
  have : (k : ℚ) ≤ 100 := by exact_mod_cast hk
  constructor
  · positivity
  · linarith

theorem one_sub_prod_mono {c i a c' i' a' : ℚ} (hc : c ≤ c') (hc1 : c' ≤ 1) (hi : i ≤ i') (hi1 : i' ≤ 1)
    (ha : a ≤ a') (ha1 : a' ≤ 1) :
    1 - (1 - c) * (1 - i) * (1 - a) ≤ 1 - (1 - c') * (1 - i') * (1 - a') := by
  have c0 : 0 ≤ 1 - c' := sub_nonneg.2 hc1
  have i0 : 0 ≤ 1 - i' := sub_nonneg.2 hi1
  have cc : 1 - c' ≤ 1 - c := sub_le_sub_left hc 1
  have ii : 1 - i' ≤ 1 - i := sub_le_sub_left hi 1
  exact sub_le_sub_left (mul_le_mul (mul_le_mul cc ii i0 (c0.trans cc)) (sub_le_sub_left ha 1)
    (sub_nonneg.2 ha1) (mul_nonneg (c0.trans cc) (i0.trans ii))) 1

theorem mul_le_ten {x t : ℚ} (hx : x ≤ 10) (h0 : 0 ≤ t) (h1 : t ≤ 1) : x * t ≤ 10 :=
  (mul_le_mul hx h1 h0 (by norm_num)).trans (by norm_num)

theorem mul3_mono {x y z x' y' z' : ℚ} (hx0 : 0 ≤ x) (hy0 : 0 ≤ y) (hz0 : 0 ≤ z)
    (hx : x ≤ x') (hy : y ≤ y') (hz : z ≤ z') : x * y * z ≤ x' * y' * z' :=
  mul_le_mul (mul_le_mul hx hy hy0 (hx0.trans hx)) hz hz0 (mul_nonneg (hx0.trans hx) (hy0.trans hy))

/-- the weight tables of the v2 guide and the v3 specification are read in the same way (an unknown metric or
    token weighs 0) -/
theorem w_cases_of (W : List (Str × List (Str × Rat))) (P : Rat → Prop) (h0 : P 0) (m v : Str)
    (h : ∀ row x, (m, row) ∈ W → (v, x) ∈ row → P x) :
    P (match lookup m W with | none => 0 | some row => (lookup v row).getD 0) := by
  cases h1 : lookup m W with
  | none => exact h0
  | some row =>
    show P ((lookup v row).getD 0)
    cases h2 : lookup v row with
    | none => exact h0
    | some x => exact h row x (lookup_mem h1) (lookup_mem h2)

end Cvss.Lemmas.Num
