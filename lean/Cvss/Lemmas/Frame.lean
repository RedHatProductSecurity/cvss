/-
  Frame lemma for the v4.0 specification: the score depends on the assignment only through the effective values
  of fifteen metrics.
-/
import Cvss.Spec.V4
namespace Cvss.Lemmas.Frame
open Cvss Cvss.Spec.V4

/-- the metrics whose effective value the v4 algorithm reads -/
def eff4 : List Str :=
  [c!"AV", c!"AC", c!"AT", c!"PR", c!"UI", c!"VC", c!"VI", c!"VA", c!"SC", c!"SI", c!"SA", c!"E", c!"CR", c!"IR", c!"AR"]

theorem dominates_congr (a a' : Assignment) (mx : List (Str × Str))
    (h : ∀ p ∈ mx, eff a p.1 = eff a' p.1) : dominates a mx = dominates a' mx := by
  unfold dominates
  induction mx with
  | nil => rfl
  | cons p t ih =>
    obtain ⟨m, v⟩ := p
    have h1 : eff a m = eff a' m := h (m, v) (by simp)
    simp only [List.all_cons, h1, ih (fun p hp => h p (List.mem_cons_of_mem _ hp))]

theorem distFrom_congr (a a' : Assignment) (mx : List (Str × Str))
    (h : ∀ p ∈ mx, eff a p.1 = eff a' p.1) : distFrom a mx = distFrom a' mx := by
  unfold distFrom
  exact congrArg List.sum (List.map_congr_left fun ⟨m, v⟩ hp => by
    simp only [show eff a m = eff a' m from h (m, v) hp])

theorem find?_congr {α : Type} {p q : α → Bool} (l : List α) (h : ∀ x ∈ l, p x = q x) :
    l.find? p = l.find? q := by
  induction l with
  | nil => rfl
  | cons x t ih =>
    simp only [List.find?_cons, h x (by simp), ih (fun y hy => h y (List.mem_cons_of_mem _ hy))]

theorem distance_congr (a a' : Assignment) (maxes : List (List (Str × Str)))
    (h : ∀ mx ∈ maxes, ∀ p ∈ mx, eff a p.1 = eff a' p.1) : distance a maxes = distance a' maxes := by
  unfold distance
  have hf : maxes.find? (dominates a) = maxes.find? (dominates a') :=
    find?_congr maxes (fun mx hmx => dominates_congr a a' mx (h mx hmx))
  rw [← hf]
  cases hfm : maxes.find? (dominates a) with
  | none => rfl
  | some mx => exact distFrom_congr a a' mx (h mx (List.mem_of_find?_eq_some hfm))

theorem max1_keys (e : Nat) : ∀ mx ∈ max1 e, ∀ p ∈ mx, p.1 ∈ eff4 := by
  unfold max1
  split <;> decide +kernel

theorem max2_keys (e : Nat) : ∀ mx ∈ max2 e, ∀ p ∈ mx, p.1 ∈ eff4 := by
  unfold max2
  split <;> decide +kernel

theorem max4_keys (e : Nat) : ∀ mx ∈ max4 e, ∀ p ∈ mx, p.1 ∈ eff4 := by
  unfold max4
  split <;> decide +kernel

theorem max36_keys (e f : Nat) : ∀ mx ∈ max36 e f, ∀ p ∈ mx, p.1 ∈ eff4 := by
  unfold max36
  split <;> decide +kernel

theorem score_congr (a a' : Assignment) (h : ∀ m ∈ eff4, eff a m = eff a' m) : score a = score a' := by
  have hd : ∀ maxes : List (List (Str × Str)), (∀ mx ∈ maxes, ∀ p ∈ mx, p.1 ∈ eff4) →
      distance a maxes = distance a' maxes :=
    fun maxes hk => distance_congr a a' maxes (fun mx hmx p hp => h _ (hk mx hmx p hp))
  -- the fifteen equations, read off `h` once: a membership proof `by decide` at each of the 21 uses doubles the cost
  have h15 := h
  simp only [eff4, List.forall_mem_cons, List.not_mem_nil, false_imp_iff, implies_true, and_true] at h15
  obtain ⟨hAV, hAC, hAT, hPR, hUI, hVC, hVI, hVA, hSC, hSI, hSA, hE, hCR, hIR, hAR⟩ := h15
  have hmv : macroVector a = macroVector a' := by
    simp only [macroVector, hAV, hAC, hAT, hPR, hUI, hVC, hVI, hVA, hSC, hSI, hSA, hE, hCR, hIR, hAR]
  have hni : noImpact a = noImpact a' := by
    simp only [noImpact, List.all_cons, List.all_nil, hVC, hVI, hVA, hSC, hSI, hSA]
  have hraw : rawScore a = rawScore a' := by
    simp only [rawScore, hmv, hd _ (max1_keys _), hd _ (max2_keys _), hd _ (max4_keys _),
      hd _ (max36_keys _ _)]
  simp only [score, hni, hraw]

end Cvss.Lemmas.Frame
