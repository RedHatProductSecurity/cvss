/-
  The level over `Ver` / `AnyObj` (the view the model has for `fromRh`, `eq` and `hashKey`): C05, C07 and C12 are proved once
  over `Ver` and read off for a class through `toVer2/3/4` (up) and, in C05 and C07, `ofVer` (down).  The completed v3
  `metrics` stay per class, in Lemmas/Construct.
-/
import Cvss.Lemmas.Construct
import Cvss.Lemmas.Invariance
import Cvss.Spec.Scores
namespace Cvss.Model
open Cvss Cvss.Props Cvss.Lemmas.Construct Cvss.Lemmas.Invariance

def Ver.tables : Ver → Tables | .v2 => V2.tables | .v3 => V3.tables | .v4 => V4.tables
def Ver.grammar : Ver → Spec.Grammar.G | .v2 => Spec.Grammar.g2 | .v3 => Spec.Grammar.g3 | .v4 => Spec.Grammar.g4
def Ver.nd : Ver → Str | .v2 => V2.ND | .v3 => V3.X | .v4 => V4.X
/-- the prefix `clean_vector` writes -/
def Ver.pfx : Ver → Nat → Str | .v2, _ => [] | .v3, i => V3.versionPrefix i | .v4, _ => V4.pfx
/-- for v2 / v4 the minor version is a dummy 0, so that statements over `Ver` carry `a.minor` uniformly -/
def Ver.minorOk : Ver → Nat → Prop | .v3, i => i = 0 ∨ i = 1 | _, i => i = 0
def AnyObj.minor : AnyObj → Nat | .o3 o => o.minor | _ => 0
def Ver.sevOf : Ver → Option Rat → Str
  | .v2, x => V2.sevOf x | .v3, x => V3.sevOf (x.getD 0) | .v4, x => V4.sevOf (x.getD 0)

theorem Ver.pinned (v : Ver) : C04.Pinned v.tables v.grammar := by
  cases v
  exacts [C04.pinned2, C04.pinned3, C04.pinned4]

theorem toVer2 {s : Str} {o : V2.Obj} (h : V2.construct s = .ok o) : construct .v2 s = .ok (.o2 o) :=
  congrArg (Except.map AnyObj.o2) h
theorem toVer3 {s : Str} {o : V3.Obj} (h : V3.construct s = .ok o) : construct .v3 s = .ok (.o3 o) :=
  congrArg (Except.map AnyObj.o3) h
theorem toVer4 {s : Str} {o : V4.Obj} (h : V4.construct s = .ok o) : construct .v4 s = .ok (.o4 o) :=
  congrArg (Except.map AnyObj.o4) h

/-- the `match` reduces only at a literal `v` -/
theorem ofVer {v : Ver} {s : Str} {P : AnyObj → Prop} : (∃ a, construct v s = .ok a ∧ P a) →
    match v with
    | .v2 => ∃ o, V2.construct s = .ok o ∧ P (.o2 o)
    | .v3 => ∃ o, V3.construct s = .ok o ∧ P (.o3 o)
    | .v4 => ∃ o, V4.construct s = .ok o ∧ P (.o4 o) := by
  rintro ⟨a, ha, hP⟩
  cases v
  all_goals
    obtain ⟨o, ho, rfl⟩ := map_ok_iff.1 ha
    exact ⟨o, ho, hP⟩

/-- all a proof may assume of a result of `construct`; NOT in it: completed v3 metrics, v4 severity, clean vector -/
structure Constructed (v : Ver) (s : Str) (a : AnyObj) : Prop where
  ver : a.ver = v
  vector : a.vector = s
  render : s = v.pfx a.minor ++ join '/' (a.orig.map fieldOf)
  accepted : Accepted v.tables a.orig
  minorOk : v.minorOk a.minor
  scores : a.scores = Spec.specScores a

theorem construct_spec {v : Ver} {s : Str} {a : AnyObj} (h : construct v s = .ok a) : Constructed v s a := by
  cases v with
  | v2 =>
    obtain ⟨o, ho, rfl⟩ := map_ok_iff.1 h
    obtain ⟨m, hp, rfl⟩ := (v2_construct_ok_iff s o).1 ho
    obtain ⟨hs, acc⟩ := (C04.v2_parse_iff _ _).1 hp
    exact ⟨rfl, rfl, hs, acc, rfl, rfl⟩
  | v3 =>
    obtain ⟨o, ho, rfl⟩ := map_ok_iff.1 h
    obtain ⟨i, m, hp, hb⟩ := (v3_construct_ok_iff s o).1 ho
    obtain ⟨o', ho', hv, rfl, rfl, hb', ht, he, -⟩ := C01.v3_build_eq_spec s i m (validMap3_of_parse hp)
    cases hb.symm.trans ho'
    obtain ⟨hi, hs, acc⟩ := (C04.v3_parse_iff _ _ _).1 hp
    refine ⟨rfl, hv, hs, acc, hi, ?_⟩
    simp only [AnyObj.scores, V3.Obj.scores, Spec.specScores, hb', ht, he]
    rfl
  | v4 =>
    obtain ⟨o, ho, rfl⟩ := map_ok_iff.1 h
    obtain ⟨m, hp, hb⟩ := (v4_construct_ok_iff s o).1 ho
    obtain ⟨o', ho', hv, rfl, hb', -⟩ := C02.v4_build_eq_spec s m (validMap4_of_parse hp)
    cases hb.symm.trans ho'
    obtain ⟨hs, acc⟩ := (C04.v4_parse_iff _ _).1 hp
    exact ⟨rfl, hv, hs, acc, rfl, congrArg (· :: []) hb'.symm⟩

theorem construct_of_accepted {v : Ver} {i : Nat} {m : MMap} (acc : Accepted v.tables m) (hi : v.minorOk i) :
    ∃ a, construct v (v.pfx i ++ join '/' (m.map fieldOf)) = .ok a ∧ a.orig = m ∧ a.minor = i := by
  cases v with
  | v2 => exact ⟨_, toVer2 ((v2_construct_ok_iff _ _).2 ⟨m, (C04.v2_parse_iff _ _).2 ⟨rfl, acc⟩, rfl⟩), rfl, hi.symm⟩
  | v3 =>
    have hp := (C04.v3_parse_iff _ i _).2 ⟨hi, rfl, acc⟩
    obtain ⟨o, ho, -, hmin, hm, -⟩ := C01.v3_build_eq_spec _ i m (validMap3_of_parse hp)
    exact ⟨_, toVer3 ((v3_construct_ok_iff _ o).2 ⟨i, m, hp, ho⟩), hm, hmin⟩
  | v4 =>
    have hp := (C04.v4_parse_iff _ _).2 ⟨rfl, acc⟩
    obtain ⟨o, ho, -, hm, -⟩ := C02.v4_build_eq_spec _ m (validMap4_of_parse hp)
    exact ⟨_, toVer4 ((v4_construct_ok_iff _ o).2 ⟨m, hp, ho⟩), hm, hi.symm⟩

theorem AnyObj.base_eq_of_scores_eq {a a' : AnyObj} (h : a.scores = a'.scores) : a.base = a'.base := by
  have e : ∀ b : AnyObj, b.scores.head? = some (some b.base) := fun b => by cases b <;> rfl
  exact Option.some.inj (Option.some.inj ((e a).symm.trans (h ▸ e a')))

theorem specScores_congr {a a' : AnyObj} (hv : a.ver = a'.ver) (hm : a.minor = a'.minor)
    (he : assignment a.ver.nd a.orig = assignment a.ver.nd a'.orig) : Spec.specScores a = Spec.specScores a' := by
  -- nine pairs of classes; `hv` leaves the three of equal class, where both sides are the same function of `he`
  cases a <;> cases a' <;> try cases hv
  · exact congrArg Spec.V2.scores he
  · simp only [AnyObj.minor] at hm
    simp only [Spec.specScores, hm]
    exact congrArg _ he
  · exact congrArg (fun x => [Spec.V4.score x]) he

theorem clean_congr {a a' : AnyObj} (hv : a.ver = a'.ver) (hm : a.minor = a'.minor)
    (he : assignment a.ver.nd a.orig = assignment a.ver.nd a'.orig) (p : Bool) : a.clean p = a'.clean p := by
  cases a <;> cases a' <;> try cases hv
  · exact v2_cleanOf_congr he
  · simp only [AnyObj.minor] at hm
    simp only [AnyObj.clean, V3.Obj.clean, hm]
    exact v3_cleanOf_congr _ p he
  · exact v4_cleanOf_congr p he

theorem construct_severities {v : Ver} {s : Str} {a : AnyObj} (h : construct v s = .ok a) :
    a.severities = a.scores.map v.sevOf := by
  cases v with
  | v2 => obtain ⟨o, -, rfl⟩ := map_ok_iff.1 h; rfl
  | v3 => obtain ⟨o, -, rfl⟩ := map_ok_iff.1 h; rfl
  | v4 =>
    obtain ⟨o, ho, rfl⟩ := map_ok_iff.1 h
    simp only [AnyObj.severities, V4.Obj.severities, v4_severity ho]
    rfl

theorem obs_congr {v : Ver} {s s' : Str} {a a' : AnyObj} (h : construct v s = .ok a) (h' : construct v s' = .ok a')
    (hm : a.minor = a'.minor) (he : assignment v.nd a.orig = assignment v.nd a'.orig) :
    a.scores = a'.scores ∧ a.severities = a'.severities ∧ (∀ p, a.clean p = a'.clean p) ∧ a.rh = a'.rh ∧
      a.hashKey = a'.hashKey ∧ a.eq a' = true := by
  have c := construct_spec h
  have c' := construct_spec h'
  have hv : a.ver = a'.ver := c.ver.trans c'.ver.symm
  have hsc : a.scores = a'.scores := by
    rw [c.scores, c'.scores]
    exact specScores_congr hv hm (c.ver ▸ he)
  have hcl : ∀ p, a.clean p = a'.clean p := clean_congr hv hm (c.ver ▸ he)
  have hb : a.base = a'.base := AnyObj.base_eq_of_scores_eq hsc
  refine ⟨hsc, by rw [construct_severities h, construct_severities h', hsc], hcl, ?_, hcl true, ?_⟩
  · simp only [AnyObj.rh, hb, hcl true]
  · simp only [AnyObj.eq, hv, hcl true, decide_true, Bool.and_self]

theorem assignment_eq_of_table {v : Ver} {s s' : Str} {a a' : AnyObj} (h : construct v s = .ok a)
    (h' : construct v s' = .ok a')
    (he : ∀ k ∈ v.tables.abbrs, assignment v.nd a.orig k = assignment v.nd a'.orig k) :
    assignment v.nd a.orig = assignment v.nd a'.orig :=
  assignment_ext v.nd _ (construct_spec h).accepted.keys_subset (construct_spec h').accepted.keys_subset he

/-- the clean vector (C07) and the re-assembled v2 sub-vectors (C15) are instances -/
theorem rerender {v : Ver} {s : Str} {a : AnyObj} (h : construct v s = .ok a) {m' : MMap}
    (acc' : Accepted v.tables m') (he : assignment v.nd m' = assignment v.nd a.orig) :
    ∃ a', construct v (v.pfx a.minor ++ join '/' (m'.map fieldOf)) = .ok a' ∧ a'.orig = m' ∧ a'.minor = a.minor ∧
      a'.scores = a.scores ∧ a'.severities = a.severities ∧ (∀ p, a'.clean p = a.clean p) ∧ a'.rh = a.rh ∧
      a'.hashKey = a.hashKey ∧ a'.eq a = true := by
  obtain ⟨a', ha', hor, hmin⟩ := construct_of_accepted acc' (construct_spec h).minorOk
  exact ⟨a', ha', hor, hmin, obs_congr ha' h hmin (hor ▸ he)⟩

end Cvss.Model
