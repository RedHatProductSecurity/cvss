/-
  C02 (v4.0): the library's search loop over the product of the per-class highest-severity vectors, and the
  assembly of `compute_base_score` against the specification.  The loop stops at the first composed vector all
  of whose 14 distances are non-negative, the specification at the first dominating vector of each class; the
  proof need not know whether these are the same vectors: every dominating vector of a class is at the same
  distance (`class_good`, the content of `C02.v4_distance_choice_irrelevant`).

  A composed vector is written `a ++ b ++ c ++ d ++ []` and the fifth factor `[[]]`: of the vectors of
  `MAX_COMPOSED["eq5"]` (`E:A/` …) the code extracts none of the 14 metrics, so `Gen.V4.maxEq5` has them empty.
  `tenthsDiff l x`: the difference of two levels in tenths, as the code subtracts them.
-/
import Mathlib.Tactic.Ring
import Mathlib.Tactic.Linarith
import Mathlib.Tactic.IntervalCases
import Cvss.Lemmas.V4
import Cvss.Lemmas.V4Levels
import Cvss.Lemmas.Num4
import Cvss.Props.C02Pins
namespace Cvss.Lemmas.V4Search
open Cvss Cvss.Model Cvss.Lemmas.V4 Cvss.Lemmas.V4Table Cvss.Lemmas.Num Cvss.Lemmas.Num4

theorem mem_product {xs ys zs ws : List (List (Str × Str))} {mv : List (Str × Str)} :
    mv ∈ V4.product xs ys zs ws [[]] ↔
      ∃ a ∈ xs, ∃ b ∈ ys, ∃ c ∈ zs, ∃ d ∈ ws, mv = a ++ b ++ c ++ d ++ [] := by
  simp only [V4.product, List.mem_flatMap, List.mem_map, List.mem_singleton, exists_eq_left, eq_comm]

theorem search_find (m : MMap) (f : List (Str × Str) → List Rat) :
    ∀ (L : List (List (Str × Str))) (last : Option (List Rat)),
    (∀ mv ∈ L, V4.distances m mv = some (f mv)) →
    ∀ mv0, L.find? (fun mv => !(f mv).any (· < 0)) = some mv0 →
    V4.search m L last = some (f mv0) := by
  intro L
  induction L with
  | nil => intro _ _ mv0 h; simp at h
  | cons mv r ih =>
    intro last hd mv0 hf
    rw [V4.search, hd mv List.mem_cons_self]
    simp only
    rw [List.find?_cons] at hf
    cases hany : (f mv).any (· < 0) with
    | true =>
      rw [hany] at hf
      simp only [Bool.not_true] at hf
      rw [if_pos rfl]
      exact ih _ (fun mv' h' => hd mv' (List.mem_cons_of_mem _ h')) mv0 hf
    | false =>
      rw [hany] at hf
      simp only [Bool.not_false, Option.some.injEq] at hf
      subst hf
      rw [if_neg (by simp)]

theorem levels_pinned : V4.levels =
    Spec.V4.levelTable.map (fun p => (p.1, p.2.map fun q => (q.1, (q.2 : Rat) / 10))) := by
  decide +kernel

def tenthsDiff (l x : Nat) : Rat := (l : Rat) / 10 - (x : Rat) / 10

theorem tenthsDiff_neg (l x : Nat) : decide (tenthsDiff l x < 0) = !decide (x ≤ l) := by
  have h : tenthsDiff l x < 0 ↔ ¬x ≤ l := by
    unfold tenthsDiff
    rw [sub_neg, div_lt_div_iff_of_pos_right (by norm_num : (0 : ℚ) < 10), Nat.cast_lt, not_le]
  simp only [h, decide_not]

def partDists (A : Str → Str) (l : List (Str × Str)) : List Rat :=
  l.map fun p => tenthsDiff (lv A p.1) (Spec.V4.level p.1 p.2)

theorem dominates_partDists (A : Str → Str) : ∀ l, Spec.V4.dominates A l = !(partDists A l).any (· < 0)
  | [] => rfl
  | p :: r => by
    have ih := dominates_partDists A r
    simp only [Spec.V4.dominates] at ih
    simp only [Spec.V4.dominates, partDists, List.all_cons, List.map_cons, List.any_cons, tenthsDiff_neg, Bool.not_or,
      Bool.not_not, ih, lv]

theorem sum_tenthsDiff (A : Str → Str) : ∀ mx : List (Str × Str), Spec.V4.dominates A mx = true →
    (partDists A mx).sum = (Spec.V4.distFrom A mx : Rat) / 10
  | [], _ => by simp [partDists, Spec.V4.distFrom]
  | p :: r, h => by
    simp only [Spec.V4.dominates, List.all_cons, Bool.and_eq_true, decide_eq_true_eq] at h
    have ih := sum_tenthsDiff A r h.2
    simp only [Spec.V4.distFrom, partDists] at ih
    have hp : tenthsDiff (lv A p.1) (Spec.V4.level p.1 p.2) = ((lv A p.1 - Spec.V4.level p.1 p.2 : Nat) : Rat) / 10 := by
      unfold tenthsDiff
      rw [Nat.cast_sub (show Spec.V4.level p.1 p.2 ≤ lv A p.1 from h.1)]
      ring
    simp only [Spec.V4.distFrom, partDists, List.map_cons, List.sum_cons]
    rw [ih, hp, Nat.cast_add]
    unfold lv
    ring

def libDist (A : Str → Str) (mv : List (Str × Str)) (k : Str) : Rat :=
  tenthsDiff (lv A k) (Spec.V4.level k ((lookup k mv).getD []))

def libDists (A : Str → Str) (mv : List (Str × Str)) : List Rat := V4.distMetrics.map (libDist A mv)

theorem map_lookup_self {α β γ : Type} [DecidableEq α] (g : α → β → γ) (d : β) :
    ∀ l : List (α × β), (keys l).Nodup →
      (keys l).map (fun k => g k ((lookup k l).getD d)) = l.map fun p => g p.1 p.2
  | [], _ => rfl
  | (a, b) :: r, hn => by
    obtain ⟨ha, hr⟩ := List.nodup_cons.mp hn
    simp only [keys, List.map_cons, lookup, if_true, Option.getD_some, List.cons.injEq, true_and]
    rw [← map_lookup_self g d r hr]
    refine List.map_congr_left fun k hk => ?_
    rw [if_neg fun h : k = a => ha (h ▸ hk)]

theorem wf_lookup {ks : List Str} {mx : List (Str × Str)} (h : wfMax ks mx = true) {k : Str} (hk : k ∈ ks) :
    ∃ v row, lookup k mx = some v ∧ lookup k Spec.V4.levelTable = some row ∧
      (lookup v row).isSome = true := by
  unfold wfMax at h
  simp only [Bool.and_eq_true, decide_eq_true_eq, List.all_eq_true] at h
  obtain ⟨hkeys, hall⟩ := h
  obtain ⟨v, hv⟩ := lookup_of_mem_keys (hkeys ▸ hk : k ∈ keys mx)
  have := hall _ (lookup_mem hv)
  simp only at this
  cases hrow : lookup k Spec.V4.levelTable with
  | none => rw [hrow] at this; cases this
  | some row => rw [hrow] at this; exact ⟨v, row, hv, rfl, this⟩

theorem wfMax_append {ks ks' : List Str} {a b : List (Str × Str)} (ha : wfMax ks a = true)
    (hb : wfMax ks' b = true) : wfMax (ks ++ ks') (a ++ b) = true := by
  unfold wfMax at ha hb ⊢
  simp only [Bool.and_eq_true, decide_eq_true_eq] at ha hb ⊢
  exact ⟨by rw [keys_append, ha.1, hb.1], by rw [List.all_append, ha.2, hb.2]; rfl⟩

theorem distMetrics_perm : V4.distMetrics.Perm (keys1 ++ keys2 ++ keys36 ++ keys4) := by decide +kernel

theorem libDist_parts (A : Str → Str) {a b c d : List (Str × Str)} (ha : keys a = keys1)
    (hb : keys b = keys2) (hc : keys c = keys36) (hd : keys d = keys4) :
    keys1.map (libDist A (a ++ b ++ c ++ d ++ [])) = partDists A a ∧
    keys2.map (libDist A (a ++ b ++ c ++ d ++ [])) = partDists A b ∧
    keys36.map (libDist A (a ++ b ++ c ++ d ++ [])) = partDists A c ∧
    keys4.map (libDist A (a ++ b ++ c ++ d ++ [])) = partDists A d := by
  rw [List.append_nil]
  have hk : keys (a ++ b ++ c ++ d) = keys1 ++ keys2 ++ keys36 ++ keys4 := by
    rw [keys_append, keys_append, keys_append, ha, hb, hc, hd]
  have H := map_lookup_self (fun k v => tenthsDiff (lv A k) (Spec.V4.level k v)) [] (a ++ b ++ c ++ d)
    (by rw [hk]; decide +kernel)
  rw [hk] at H
  simp only [List.map_append] at H
  have len : ∀ {ks : List Str} {l : List (Str × Str)}, keys l = ks →
      (ks.map (libDist A (a ++ b ++ c ++ d))).length = (partDists A l).length := fun h => by
    rw [← h]
    simp only [keys, partDists, List.length_map]
  obtain ⟨H3, h4⟩ := List.append_inj' H (len hd)
  obtain ⟨H2, h3⟩ := List.append_inj' H3 (len hc)
  obtain ⟨h1, h2⟩ := List.append_inj' H2 (len hb)
  exact ⟨h1, h2, h3, h4⟩

theorem nonneg_decomp (A : Str → Str) {a b c d : List (Str × Str)} (ha : keys a = keys1)
    (hb : keys b = keys2) (hc : keys c = keys36) (hd : keys d = keys4) :
    (!(libDists A (a ++ b ++ c ++ d ++ [])).any (· < 0)) =
      (Spec.V4.dominates A a && Spec.V4.dominates A b && Spec.V4.dominates A c &&
        Spec.V4.dominates A d) := by
  obtain ⟨h1, h2, h3, h4⟩ := libDist_parts A ha hb hc hd
  rw [libDists, (distMetrics_perm.map _).any_eq, List.map_append, List.map_append, List.map_append,
    List.any_append, List.any_append, List.any_append]
  rw [h1, h2, h3, h4, dominates_partDists, dominates_partDists, dominates_partDists, dominates_partDists]
  simp only [Bool.not_or]

section search
variable {full : MMap} {A : Str → Str} (hr : Reads full A) (hl : LegalEff A)
include hr hl

theorem libDistance_eq {k : Str} (hk : k ∈ V4.distMetrics) (mv : List (Str × Str)) {v : Str}
    {row : List (Str × Nat)} (hmv : lookup k mv = some v)
    (hrow : lookup k Spec.V4.levelTable = some row) (hlm : (lookup v row).isSome) :
    V4.distance full mv k =
      some (tenthsDiff (lv A k) (Spec.V4.level k ((lookup k mv).getD []))) := by
  obtain ⟨lm, hlm⟩ := Option.isSome_iff_exists.mp hlm
  obtain ⟨lc, hlc⟩ := Option.isSome_iff_exists.mp (hl (k, row) (lookup_mem hrow))
  simp only at hlc
  have h1 : lookup k V4.levels = some (row.map fun q => (q.1, (q.2 : Rat) / 10)) := by
    rw [levels_pinned, lookup_map_val (fun r : List (Str × Nat) => r.map fun q => (q.1, (q.2 : Rat) / 10)),
      hrow]; rfl
  have h2 : lv A k = lc := level_of_lookup hrow hlc
  have h3 : Spec.V4.level k ((lookup k mv).getD []) = lm := by
    rw [hmv]; exact level_of_lookup hrow hlm
  unfold V4.distance
  rw [h3, h2, h1, hr.1 k hk, hmv]
  simp only [Option.bind_eq_bind, Option.bind_some,
    lookup_map_val (fun n : Nat => (n : Rat) / 10), hlc, hlm, Option.map_some]
  rfl

theorem distances_eq (mv : List (Str × Str))
    (hwf : ∀ k ∈ V4.distMetrics, ∃ v row, lookup k mv = some v ∧
      lookup k Spec.V4.levelTable = some row ∧ (lookup v row).isSome = true) :
    V4.distances full mv = some (libDists A mv) := by
  unfold V4.distances libDists
  refine mapM_pure_of_mem fun k hk => ?_
  obtain ⟨v, row, h1, h2, h3⟩ := hwf k hk
  exact libDistance_eq hr hl hk mv h1 h2 h3

/-- given a dominating vector in each class, the loop stops at a composed vector whose four parts dominate; the
    per-class sums of its distances are the specification's `distFrom` of the parts, in tenths -/
theorem search_result {xs ys zs ws : List (List (Str × Str))}
    (hx : xs.all (wfMax keys1) = true) (hy : ys.all (wfMax keys2) = true)
    (hz : zs.all (wfMax keys36) = true) (hw : ws.all (wfMax keys4) = true)
    (ha : ∃ a ∈ xs, Spec.V4.dominates A a = true) (hb : ∃ b ∈ ys, Spec.V4.dominates A b = true)
    (hc : ∃ c ∈ zs, Spec.V4.dominates A c = true) (hd : ∃ d ∈ ws, Spec.V4.dominates A d = true) :
    ∃ a ∈ xs, ∃ b ∈ ys, ∃ c ∈ zs, ∃ d ∈ ws,
      (Spec.V4.dominates A a = true ∧ Spec.V4.dominates A b = true ∧
        Spec.V4.dominates A c = true ∧ Spec.V4.dominates A d = true) ∧
      ∃ dAV dPR dUI dAC dAT dVC dVI dVA dSC dSI dSA dCR dIR dAR : Rat,
        V4.search full (V4.product xs ys zs ws [[]]) none =
          some [dAV, dPR, dUI, dAC, dAT, dVC, dVI, dVA, dSC, dSI, dSA, dCR, dIR, dAR] ∧
        dAV + dPR + dUI = (Spec.V4.distFrom A a : Rat) / 10 ∧
        dAC + dAT = (Spec.V4.distFrom A b : Rat) / 10 ∧
        dVC + dVI + dVA + dCR + dIR + dAR = (Spec.V4.distFrom A c : Rat) / 10 ∧
        dSC + dSI + dSA = (Spec.V4.distFrom A d : Rat) / 10 := by
  have hkeys : ∀ {mv}, mv ∈ V4.product xs ys zs ws [[]] → ∃ a ∈ xs, ∃ b ∈ ys, ∃ c ∈ zs, ∃ d ∈ ws,
      mv = a ++ b ++ c ++ d ++ [] ∧ wfMax keys1 a = true ∧ wfMax keys2 b = true ∧ wfMax keys36 c = true ∧
        wfMax keys4 d = true :=
    fun hmv => by
      obtain ⟨a, ham, b, hbm, c, hcm, d, hdm, e⟩ := mem_product.mp hmv
      exact ⟨a, ham, b, hbm, c, hcm, d, hdm, e, List.all_eq_true.mp hx _ ham, List.all_eq_true.mp hy _ hbm,
        List.all_eq_true.mp hz _ hcm, List.all_eq_true.mp hw _ hdm⟩
  have hdist : ∀ mv ∈ V4.product xs ys zs ws [[]], V4.distances full mv = some (libDists A mv) := by
    intro mv hmv
    obtain ⟨a, -, b, -, c, -, d, -, rfl, wa, wb, wc, wd⟩ := hkeys hmv
    refine distances_eq hr hl _ fun k hk => ?_
    rw [List.append_nil]
    exact wf_lookup (wfMax_append (wfMax_append (wfMax_append wa wb) wc) wd) (distMetrics_perm.subset hk)
  obtain ⟨a1, ha1, da1⟩ := ha
  obtain ⟨b1, hb1, db1⟩ := hb
  obtain ⟨c1, hc1, dc1⟩ := hc
  obtain ⟨d1, hd1, dd1⟩ := hd
  have hex : ∃ mv ∈ V4.product xs ys zs ws [[]], (!(libDists A mv).any (· < 0)) = true := by
    refine ⟨_, mem_product.mpr ⟨a1, ha1, b1, hb1, c1, hc1, d1, hd1, rfl⟩, ?_⟩
    rw [nonneg_decomp A (wf_keys hx _ ha1) (wf_keys hy _ hb1) (wf_keys hz _ hc1) (wf_keys hw _ hd1),
      da1, db1, dc1, dd1]
    rfl
  obtain ⟨mv0, hf⟩ := Option.isSome_iff_exists.mp (List.find?_isSome.mpr hex)
  have hs := search_find full (libDists A) _ none hdist _ hf
  have hP := List.find?_some hf
  obtain ⟨a, ham, b, hbm, c, hcm, d, hdm, rfl, -, -, -, -⟩ := hkeys (List.mem_of_find?_eq_some hf)
  have ka := wf_keys hx _ ham
  have kb := wf_keys hy _ hbm
  have kc := wf_keys hz _ hcm
  have kd := wf_keys hw _ hdm
  rw [nonneg_decomp A ka kb kc kd] at hP
  simp only [Bool.and_eq_true] at hP
  obtain ⟨⟨⟨ta, tb⟩, tc⟩, td⟩ := hP
  obtain ⟨h1, h2, h3, h4⟩ := libDist_parts A ka kb kc kd
  refine ⟨a, ham, b, hbm, c, hcm, d, hdm, ⟨ta, tb, tc, td⟩, _, _, _, _, _, _, _, _, _, _, _, _, _, _, hs, ?_, ?_, ?_, ?_⟩
  · rw [← sum_tenthsDiff A _ ta, ← h1]
    simp only [keys1, List.map_cons, List.map_nil, List.sum_cons, List.sum_nil]
    ring
  · rw [← sum_tenthsDiff A _ tb, ← h2]
    simp only [keys2, List.map_cons, List.map_nil, List.sum_cons, List.sum_nil]
    ring
  · rw [← sum_tenthsDiff A _ tc, ← h3]
    simp only [keys36, List.map_cons, List.map_nil, List.sum_cons, List.sum_nil]
    ring
  · rw [← sum_tenthsDiff A _ td, ← h4]
    simp only [keys4, List.map_cons, List.map_nil, List.sum_cons, List.sum_nil]
    ring

end search

theorem lookup_of_pin {α β γ : Type} [DecidableEq α] {l : List (α × β)} {ks : List γ} {f : γ → α × β}
    (h : (keys l).Nodup ∧ l.Perm (ks.map f)) {i : γ} (hi : i ∈ ks) : lookup (f i).1 l = some (f i).2 :=
  lookup_eq_some_of_mem l h.1 _ _ (h.2.mem_iff.mpr (List.mem_map_of_mem hi))

/-- the classes of a macrovector are keys of the pinned tables; the lists are those of
    `Props/C02Pins.lean` (up to definitional equality) -/
theorem class_key : (∀ e ≤ 2, e ∈ [0, 1, 2]) ∧ (∀ e ≤ 1, e ∈ [0, 1]) := by decide

theorem class36_key : ∀ {e3 e6 : Nat}, e3 ≤ 2 → e6 ≤ 1 → (e3 = 2 → e6 = 1) →
    (e3, e6) ∈ [(0, 0), (0, 1), (1, 0), (1, 1), (2, 1)]
  | 0, 0, _, _, _ => by decide
  | 0, 1, _, _, _ => by decide
  | 1, 0, _, _, _ => by decide
  | 1, 1, _, _, _ => by decide
  | 2, 1, _, _, _ => by decide
  | 2, 0, _, _, h => absurd (h rfl) (by decide)
  | _ + 3, _, h, _, _ => absurd h (by omega)
  | _, _ + 2, _, h, _ => absurd h (by omega)

theorem maxEq5_lookup : ∀ e, e ≤ 2 → lookup (natToStr e) Gen.V4.maxEq5 = some [[]] := by
  intro e he
  interval_cases e <;> rfl

theorem r_1_10 : V4.r 1 10 = 1 / 10 := by
  unfold V4.r; rw [Rat.mkRat_eq_div]; norm_num

theorem epsilon_eq : Gen.V4.epsilon = 1 / 1000000 := by
  unfold Gen.V4.epsilon; rw [Rat.mkRat_eq_div]; norm_num

theorem contribution_term (value : ℚ) (lower : Option ℚ) (c : ℚ) (dist D : ℕ)
    (hgap : ∀ l, lower = some l → l ≤ value) (hD : D ≠ 0) (hc : c = (dist : ℚ) / 10) :
    V4.contribution value lower c ((D : ℚ) * V4.r 1 10) = some (Spec.V4.term value lower dist D) := by
  have hDq : (D : ℚ) ≠ 0 := by exact_mod_cast hD
  unfold V4.contribution Spec.V4.term
  cases lower with
  | none => rfl
  | some l =>
    have := hgap l rfl
    simp only
    rw [if_pos (sub_nonneg.mpr this), r_1_10, if_neg (mul_ne_zero hDq (by norm_num)), hc, mul_one_div,
      div_div_div_cancel_right₀ (by norm_num)]

/-- EQ5 has no severity distance: the library only counts the class -/
theorem count5_term (value : ℚ) : ∀ lower : Option ℚ, (∀ l, lower = some l → l ≤ value) →
    (match lower with
      | none => ((0 : ℕ), (0 : ℚ))
      | some l => if value - l ≥ 0 then (1, 0) else (0, 0)) = Spec.V4.term value lower 0 1
  | none, _ => rfl
  | some l, hgap => by
    have := hgap l rfl
    simp only [Spec.V4.term]
    rw [if_pos (by linarith)]
    simp

theorem clamp_eq (x : ℚ) : pyMin 10 (pyMax 0 x) = max 0 (min 10 x) := by
  rw [pyMin_eq_min, pyMax_eq_max, max_min_distrib_left, max_eq_right (by norm_num : (0 : ℚ) ≤ 10)]

-- `bs`: step over one `bind` of the do-block whose argument is now `some _`
local macro "bs" : tactic =>
  `(tactic| first | rw [Option.bind_some] | rw [Option.bind_eq_bind, Option.bind_some])

/-- `compute_base_score` past its early return (`hni`), each look-up and call given its result -/
theorem baseScore_eq {m : MMap} {e1 e2 e3 e4 e5 e6 : Nat} {value : Rat}
    {m1 m2 m36 m4 m5 : List (List (Str × Str))}
    {dAV dPR dUI dAC dAT dVC dVI dVA dSC dSI dSA dCR dIR dAR : Rat} {ms1 ms2 ms36 ms4 : Nat}
    {k1 k2 k36 k4 : Nat × Rat} {s36 : Option Rat}
    (hni : ([c!"VC", c!"VI", c!"VA", c!"SC", c!"SI", c!"SA"].all (fun k => V4.mEff m k = some c!"N")) = false)
    (hmv : V4.macroVector m = some [e1, e2, e3, e4, e5, e6])
    (hval : V4.lookupScore [e1, e2, e3, e4, e5, e6] = some value)
    (hm1 : lookup (natToStr e1) Gen.V4.maxEq1 = some m1)
    (hm2 : lookup (natToStr e2) Gen.V4.maxEq2 = some m2)
    (hm36 : lookup (natToStr e3 ++ natToStr e6) Gen.V4.maxEq36 = some m36)
    (hm4 : lookup (natToStr e4) Gen.V4.maxEq4 = some m4)
    (hm5 : lookup (natToStr e5) Gen.V4.maxEq5 = some m5)
    (hsearch : V4.search m (V4.product m1 m2 m36 m4 m5) none =
      some [dAV, dPR, dUI, dAC, dAT, dVC, dVI, dVA, dSC, dSI, dSA, dCR, dIR, dAR])
    (hms1 : lookup e1 Gen.V4.maxSeverityEq1 = some ms1)
    (hms2 : lookup e2 Gen.V4.maxSeverityEq2 = some ms2)
    (hms36 : lookup (e3, e6) Gen.V4.maxSeverityEq36 = some ms36)
    (hms4 : lookup e4 Gen.V4.maxSeverityEq4 = some ms4)
    (hs36 : lookup36 e1 e2 e3 e4 e5 e6 = s36)
    (hk1 : V4.contribution value (V4.lookupScore [e1 + 1, e2, e3, e4, e5, e6]) (dAV + dPR + dUI)
      (ms1 * V4.r 1 10) = some k1)
    (hk2 : V4.contribution value (V4.lookupScore [e1, e2 + 1, e3, e4, e5, e6]) (dAC + dAT)
      (ms2 * V4.r 1 10) = some k2)
    (hk36 : V4.contribution value s36 (dVC + dVI + dVA + dCR + dIR + dAR) (ms36 * V4.r 1 10) = some k36)
    (hk4 : V4.contribution value (V4.lookupScore [e1, e2, e3, e4 + 1, e5, e6]) (dSC + dSI + dSA)
      (ms4 * V4.r 1 10) = some k4) :
    V4.baseScore m = some (V4.finalRounding (pyMin 10 (pyMax 0 (value -
      (let k5 : Nat × Rat := match V4.lookupScore [e1, e2, e3, e4, e5 + 1, e6] with
          | none => (0, 0)
          | some l => if value - l ≥ 0 then (1, 0) else (0, 0)
       let n := k1.1 + k2.1 + k36.1 + k4.1 + k5.1
       if n = 0 then 0 else (k1.2 + k2.2 + k36.2 + k4.2 + k5.2) / n))))) := by
  unfold lookup36 at hs36
  unfold V4.baseScore
  rw [hni, if_neg (by decide), hmv]; bs
  rw [hval]; bs
  dsimp only
  rw [hm1]; bs
  rw [hm2]; bs
  rw [hm36]; bs
  rw [hm4]; bs
  rw [hm5]; bs
  rw [hsearch]; bs
  dsimp only
  rw [hms1]; bs
  rw [hms2]; bs
  rw [hms36]; bs
  rw [hms4]; bs
  rw [hk1]; bs
  rw [hk2]; bs
  rw [hs36, hk36]; bs
  rw [hk4]; bs
  rfl

theorem baseScore_eq_score {full : MMap} {A : Str → Str} (hr : Reads full A) (hl : LegalEff A)
    (hE : Spec.V4.eff A c!"E" = c!"A" ∨ Spec.V4.eff A c!"E" = c!"P" ∨ Spec.V4.eff A c!"E" = c!"U") :
    ∃ b, V4.baseScore full = some b ∧ Spec.V4.score A = some b := by
  have hni : ([c!"VC", c!"VI", c!"VA", c!"SC", c!"SI", c!"SA"].all
      (fun k => V4.mEff full k = some c!"N")) = Spec.V4.noImpact A := by
    unfold Spec.V4.noImpact
    simp only [List.all_cons, List.all_nil, hr.1 c!"VC" (by decide), hr.1 c!"VI" (by decide),
      hr.1 c!"VA" (by decide), hr.1 c!"SC" (by decide), hr.1 c!"SI" (by decide), hr.1 c!"SA" (by decide),
      Option.some.injEq]
  cases hno : Spec.V4.noImpact A with
  | true =>
    refine ⟨0, ?_, ?_⟩
    · unfold V4.baseScore; rw [hni, hno]; rfl
    · unfold Spec.V4.score; rw [hno]; rfl
  | false =>
    rw [hno] at hni
    obtain ⟨b1, b2, b3, b4, b5, b6, b36⟩ := mv_bounds A
    obtain ⟨value, hvalue⟩ := Option.isSome_iff_exists.mp (lookup_total A)
    have hmacro := macroVector_of_reads hr hE
    have good1 := class_good hl (show 0 < 4 by omega)
    have good2 := class_good hl (show 1 < 4 by omega)
    have good36 := class_good hl (show 2 < 4 by omega)
    have good4 := class_good hl (show 3 < 4 by omega)
    unfold sdist at good1 good2 good36 good4
    generalize hmv : Spec.V4.macroVector A = mv at *
    obtain ⟨e1, e2, e3, e4, e5, e6⟩ := mv
    simp only at b1 b2 b3 b4 b5 b6 b36 hmacro
    have i1 := class_key.1 e1 b1
    have i2 := class_key.2 e2 b2
    have i4 := class_key.1 e4 b4
    have i36 := class36_key b3 b6 b36
    obtain ⟨a0, ha0, b0, hb0, c0, hc0, d0, hd0, ⟨ta, tb, tc, td⟩,
        dAV, dPR, dUI, dAC, dAT, dVC, dVI, dVA, dSC, dSI, dSA, dCR, dIR, dAR, hs, s1, s2, s36, s4⟩ :=
      search_result hr hl (xs := Spec.V4.max1 e1) (ys := Spec.V4.max2 e2) (zs := Spec.V4.max36 e3 e6)
        (ws := Spec.V4.max4 e4) (smax_facts 0 (by omega) e1 (by omega) 0 (by omega)).2
        (smax_facts 1 (by omega) e2 (by omega) 0 (by omega)).2 (smax_facts 2 (by omega) e3 (by omega) e6 (by omega)).2
        (smax_facts 3 (by omega) e4 (by omega) 0 (by omega)).2 good1.1 good2.1 good36.1 good4.1
    have hd1 : Spec.V4.distFrom A a0 = Spec.V4.distance A (Spec.V4.max1 e1) := good1.2 a0 ha0 ta
    have hd2 : Spec.V4.distFrom A b0 = Spec.V4.distance A (Spec.V4.max2 e2) := good2.2 b0 hb0 tb
    have hd36 : Spec.V4.distFrom A c0 = Spec.V4.distance A (Spec.V4.max36 e3 e6) := good36.2 c0 hc0 tc
    have hd4 : Spec.V4.distFrom A d0 = Spec.V4.distance A (Spec.V4.max4 e4) := good4.2 d0 hd0 td
    have hgap := gap_nonneg ⟨e1, e2, e3, e4, e5, e6⟩ value hvalue
    obtain ⟨hL1, hL2, hL36, hL4, hL5⟩ := lookupScore_lowers e1 e2 e3 e4 e5 e6
      ⟨Nat.lt_succ_of_le b1, Nat.lt_succ_of_le b2, Nat.lt_succ_of_le b3, Nat.lt_succ_of_le b4,
        Nat.lt_succ_of_le b5, Nat.lt_succ_of_le b6⟩
    have hval : V4.lookupScore [e1, e2, e3, e4, e5, e6] = some value := by
      rw [lookupScore_eq (by omega)]
      exact hvalue
    have hk1 := contribution_term value (Spec.V4.lower1 ⟨e1, e2, e3, e4, e5, e6⟩) (dAV + dPR + dUI)
      (Spec.V4.distance A (Spec.V4.max1 e1)) (Spec.V4.depth1 e1)
      (hgap _ (by simp)) (depth_dvd ⟨e1, e2, e3, e4, e5, e6⟩ 0).2 (by rw [s1, hd1])
    have hk2 := contribution_term value (Spec.V4.lower2 ⟨e1, e2, e3, e4, e5, e6⟩) (dAC + dAT)
      (Spec.V4.distance A (Spec.V4.max2 e2)) (Spec.V4.depth2 e2)
      (hgap _ (by simp)) (depth_dvd ⟨e1, e2, e3, e4, e5, e6⟩ 1).2 (by rw [s2, hd2])
    have hk36 := contribution_term value (Spec.V4.lower36 ⟨e1, e2, e3, e4, e5, e6⟩)
      (dVC + dVI + dVA + dCR + dIR + dAR)
      (Spec.V4.distance A (Spec.V4.max36 e3 e6)) (Spec.V4.depth36 e3 e6)
      (hgap _ (by simp)) (depth_dvd ⟨e1, e2, e3, e4, e5, e6⟩ 2).2 (by rw [s36, hd36])
    have hk4 := contribution_term value (Spec.V4.lower4 ⟨e1, e2, e3, e4, e5, e6⟩) (dSC + dSI + dSA)
      (Spec.V4.distance A (Spec.V4.max4 e4)) (Spec.V4.depth4 e4)
      (hgap _ (by simp)) (depth_dvd ⟨e1, e2, e3, e4, e5, e6⟩ 3).2 (by rw [s4, hd4])
    have hk5 := count5_term value (Spec.V4.lower5 ⟨e1, e2, e3, e4, e5, e6⟩) (hgap _ (by simp))
    have hbase := baseScore_eq hni hmacro hval (lookup_of_pin Props.C02.maxComposed_pinned.1 i1)
      (lookup_of_pin Props.C02.maxComposed_pinned.2.1 i2) (lookup_of_pin Props.C02.maxComposed_pinned.2.2.1 i36)
      (lookup_of_pin Props.C02.maxComposed_pinned.2.2.2.1 i4) (maxEq5_lookup e5 b5) hs
      (lookup_of_pin Props.C02.maxSeverity_pinned.1 i1) (lookup_of_pin Props.C02.maxSeverity_pinned.2.1 i2)
      (lookup_of_pin Props.C02.maxSeverity_pinned.2.2.1 i36) (lookup_of_pin Props.C02.maxSeverity_pinned.2.2.2 i4) hL36
      (by rw [hL1]; exact hk1) (by rw [hL2]; exact hk2) hk36 (by rw [hL4]; exact hk4)
    refine ⟨_, hbase, ?_⟩
    -- unfolded only here: every step above would carry the term along
    unfold Spec.V4.score Spec.V4.rawScore
    rw [hno, hmv]
    simp only [Bool.false_eq_true, if_false, hvalue, Option.map_some, hL5, hk5]
    rw [clamp_eq]
    unfold V4.finalRounding Spec.V4.roundHalfUp
    rw [epsilon_eq]
    refine congrArg some (roundHalfUp_eps _ _ (le_max_left _ _) ?_ (by norm_num) (le_refl _)).symm
    have hraw := rawScore_rawN A
    unfold Spec.V4.rawScore sdist at hraw
    rw [hmv] at hraw
    simp only [hvalue, Option.some.injEq] at hraw
    rw [hraw]
    exact rawN_den _ _

end Cvss.Lemmas.V4Search
