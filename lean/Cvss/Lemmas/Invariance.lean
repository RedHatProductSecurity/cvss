/-
  Lemmas shared by C05 (independence of field order / Not-Defined spelling), C07 (canonical form) and C15
  (sub-vectors): the assignment of a permuted / extended / tabulated map, and the clean vector as a function of it.
-/
import Cvss.Props.C04
namespace Cvss.Lemmas.Invariance
open Cvss Cvss.Model Cvss.Props Cvss.Spec.Grammar

theorem render_append (m : MMap) (kv : Str × Str) (hne : m ≠ []) :
    join '/' ((m ++ [kv]).map fieldOf) = join '/' (m.map fieldOf) ++ '/' :: fieldOf kv := by
  rw [List.map_append, join_append _ _ _ (by simpa using hne) (by simp)]
  rfl

theorem assignment_perm (nd : Str) {m m' : MMap} (hp : m.Perm m') (hn : (keys m).Nodup) (k : Str) :
    assignment nd m k = assignment nd m' k := by
  unfold assignment; rw [lookup_perm m m' hp hn k]

theorem assignment_append_nd (nd : Str) (m : MMap) (k : Str) (j : Str) :
    assignment nd m j = assignment nd (m ++ [(k, nd)]) j := by
  unfold assignment
  rw [lookup_append]
  cases lookup j m with
  | some v => rfl
  | none => by_cases hj : j = k <;> simp [lookup, hj]

theorem assignment_ext (nd : Str) (ks : List Str) {m m' : MMap} (hm : ∀ k ∈ keys m, k ∈ ks)
    (hm' : ∀ k ∈ keys m', k ∈ ks) (he : ∀ k ∈ ks, assignment nd m k = assignment nd m' k) :
    assignment nd m = assignment nd m' := by
  funext k
  by_cases hk : k ∈ ks
  · exact he k hk
  · rw [assignment_of_none ((lookup_eq_none_iff _ _).2 (fun h => hk (hm k h))),
      assignment_of_none ((lookup_eq_none_iff _ _).2 (fun h => hk (hm' k h)))]

theorem assignment_tabulate (nd : Str) (f : Str → Str) {L : List Str} (hf : ∀ k, k ∉ L → f k = nd) :
    assignment nd (L.map (fun k => (k, f k))) = f := by
  funext k
  by_cases hk : k ∈ L
  · exact assignment_of_some ((lookup_tabulate f k L).trans (if_pos hk))
  · rw [assignment_of_none ((lookup_tabulate f k L).trans (if_neg hk)), hf k hk]

theorem legalPair_of_mem {T : Tables} {g : G} (hp : C04.Pinned T g) {k v : Str} {ws : List Str}
    (hk : k ∈ T.abbrs) (hl : lookup k T.legal = some ws) (hv : v ∈ ws) : LegalPair T (k, v) := by
  have hk' : k ∈ keys g.vocab := (hp.abbrs_iff k).1 hk
  obtain ⟨vs, hvs⟩ := Option.isSome_iff_exists.1 ((lookup_isSome_iff_mem_keys _ _).2 hk')
  obtain ⟨ws', hws', hiff⟩ := hp.legal hvs
  rw [hl] at hws'
  cases hws'
  obtain ⟨-, hc, hall⟩ := C04.tokensClean_spec hp.clean (lookup_mem hvs)
  exact ⟨hk, ⟨ws, hl, hv⟩, hc, (hall v ((hiff v).2 hv)).2⟩

/-- `hnd`: the optional metrics take the Not Defined token, `C05.ndLegal_pair_ver` -/
theorem assignment_legalPair {T : Tables} {nd : Str} (hnd : ∀ k ∈ T.abbrs, k ∉ T.mandatory → LegalPair T (k, nd))
    {m : MMap} (acc : Accepted T m) {k : Str} (hk : k ∈ T.abbrs) : LegalPair T (k, assignment nd m k) := by
  cases hlk : lookup k m with
  | some v => exact assignment_of_some hlk ▸ acc.legal (k, v) (lookup_mem hlk)
  | none =>
    exact assignment_of_none hlk ▸ hnd k hk (fun hmem => (lookup_eq_none_iff _ _).1 hlk (acc.mandatory k hmem))

theorem filterMap_field_congr (abbrs : List Str) (nd : Str) {m m' : MMap} (h : assignment nd m = assignment nd m') :
    abbrs.filterMap (fun k => match lookup k m with
      | some v => if v ≠ nd then some (k ++ ':' :: v) else none
      | none => none) =
    abbrs.filterMap (fun k => match lookup k m' with
      | some v => if v ≠ nd then some (k ++ ':' :: v) else none
      | none => none) := by
  -- the field listed for `k` is a function of the value `k` is assigned: none for Not Defined, stated or not
  have key : ∀ (m : MMap) (k : Str), (match lookup k m with
      | some v => if v ≠ nd then some (k ++ ':' :: v) else none
      | none => none) = if assignment nd m k = nd then none else some (k ++ ':' :: assignment nd m k) := by
    intro m k
    unfold assignment
    cases lookup k m with
    | none => simp
    | some v => by_cases hv : v = nd <;> simp [hv]
  simp only [key, h]

theorem v2_cleanOf_congr {m m' : MMap} (h : assignment V2.ND m = assignment V2.ND m') :
    V2.cleanOf m = V2.cleanOf m' :=
  congrArg (join '/') (filterMap_field_congr _ _ h)

theorem v3_cleanOf_congr (minor : Nat) (b : Bool) {m m' : MMap}
    (h : assignment V3.X m = assignment V3.X m') : V3.cleanOf minor m b = V3.cleanOf minor m' b :=
  congrArg (fun x => _ ++ join '/' x) (filterMap_field_congr _ _ h)

theorem v4_cleanOf_congr (b : Bool) {m m' : MMap}
    (h : assignment V4.X m = assignment V4.X m') : V4.cleanOf m b = V4.cleanOf m' b :=
  congrArg (fun x => _ ++ join '/' x) (filterMap_field_congr _ _ h)

theorem join_groups (f : Str → Str) (l₁ l₂ l₃ : List Str) (h₁ : l₁ ≠ []) (h₂ : l₂ ≠ []) (h₃ : l₃ ≠ []) :
    join '/' (l₁.map fun k => fieldOf (k, f k)) ++ '/' :: join '/' (l₂.map fun k => fieldOf (k, f k)) ++
        '/' :: join '/' (l₃.map fun k => fieldOf (k, f k)) =
      join '/' (((l₁ ++ l₂ ++ l₃).map fun k => (k, f k)).map fieldOf) := by
  rw [List.map_map, List.map_append, List.map_append,
    join_append '/' _ (l₃.map _) (by simp [h₁]) (by simpa using h₃),
    join_append '/' (l₁.map _) (l₂.map _) (by simpa using h₁) (by simpa using h₂)]
  rfl

theorem _root_.Cvss.Model.Accepted.tabulate {T : Tables} (f : Str → Str) {L : List Str} (hne : L ≠ []) (hnd : L.Nodup)
    (hsub : ∀ k ∈ T.mandatory, k ∈ L) (hleg : ∀ k ∈ L, LegalPair T (k, f k)) :
    Accepted T (L.map (fun k => (k, f k))) where
  ne := by simpa using hne
  legal := fun kv hkv => by
    obtain ⟨k, hk, rfl⟩ := List.mem_map.1 hkv
    exact hleg k hk
  nodup := by rw [keys_tabulate]; exact hnd
  mandatory := fun k hk => by rw [keys_tabulate]; exact hsub k hk

theorem tabulate_facts {T : Tables} {g : G} (hp : C04.Pinned T g) (f : Str → Str) (hne : T.abbrs ≠ [])
    (hsub : ∀ k ∈ T.mandatory, k ∈ T.abbrs) (hleg : ∀ k ∈ T.abbrs, LegalPair T (k, f k)) :
    T.abbrs.map (fun k => (k, f k)) ≠ [] ∧
      (∀ kv ∈ T.abbrs.map (fun k => (k, f k)), LegalPair T kv) ∧
      (∀ kv ∈ T.abbrs.map (fun k => (k, f k)), '/' ∉ kv.1 ∧ '/' ∉ kv.2) ∧
      (keys (T.abbrs.map (fun k => (k, f k)))).Nodup ∧
      ∀ k ∈ T.mandatory, k ∈ keys (T.abbrs.map (fun k => (k, f k))) :=
  have acc := Accepted.tabulate f hne hp.nodup hsub hleg
  ⟨acc.ne, acc.legal, fun kv hkv => hp.slashFree (acc.legal kv hkv), acc.nodup, acc.mandatory⟩

end Cvss.Lemmas.Invariance
