/-
  What the Red Hat notation (C12) needs of strings: `split("/", 1)` (`splitFirst`) splits exactly at the first separator,
  and a printed score contains none.
-/
import Cvss.Model.Any
namespace Cvss.Lemmas.Rh
open Cvss Cvss.Model

theorem splitFirst_append (sep : Char) (a b : Str) (h : sep ∉ a) :
    splitFirst sep (a ++ sep :: b) = some (a, b) := by
  induction a with
  | nil => simp [splitFirst]
  | cons c cs ih =>
    have hc : c ≠ sep := fun e => h (e ▸ List.mem_cons_self)
    simp only [List.cons_append, splitFirst, if_neg hc, ih (fun hm => h (List.mem_cons_of_mem _ hm))]

theorem splitFirst_iff (sep : Char) (text a b : Str) :
    splitFirst sep text = some (a, b) ↔ text = a ++ sep :: b ∧ sep ∉ a := by
  refine ⟨fun h => ?_, fun ⟨e, h⟩ => e ▸ splitFirst_append sep a b h⟩
  induction text generalizing a with
  | nil => simp [splitFirst] at h
  | cons c cs ih =>
    unfold splitFirst at h
    split at h
    · rename_i hc
      cases h
      exact ⟨by rw [hc]; rfl, by simp⟩
    · rename_i hc
      split at h
      · cases h
      · rename_i a' b' hs
        cases h
        obtain ⟨e1, e2⟩ := ih a' hs
        exact ⟨by rw [e1]; rfl, fun hm => (List.mem_cons.1 hm).elim (fun e => hc e.symm) e2⟩

theorem splitFirst_none_iff (sep : Char) (text : Str) : splitFirst sep text = none ↔ sep ∉ text := by
  constructor
  · intro h hm
    obtain ⟨a, b, rfl, ha⟩ := List.eq_append_cons_of_mem hm
    rw [splitFirst_append sep a b ha] at h
    cases h
  · intro h
    cases hs : splitFirst sep text with
    | none => rfl
    | some p => exact absurd (((splitFirst_iff sep text p.1 p.2).1 hs).1 ▸ by simp) h

theorem natToStr_no_slash (n : Nat) : '/' ∉ natToStr n := by
  intro h
  have := Nat.isDigit_of_mem_toDigits (b := 10) (by decide) (by decide) h
  revert this
  decide

theorem showScore_no_slash (x : Rat) : '/' ∉ showScore x := by
  unfold showScore
  simp only [List.mem_append, List.mem_cons, not_or]
  exact ⟨natToStr_no_slash _, by decide, natToStr_no_slash _⟩

end Cvss.Lemmas.Rh
