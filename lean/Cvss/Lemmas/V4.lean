/-
  C02, C18 (v4.0), from the metric map to the assignment: in the map completed by `add_missing_optional` the library's
  `m()` returns the specification's effective value of every metric that `compute_base_score` reads (`reads_full`):
  the Modified entry of a base metric has been filled with the effective value, and CR, IR, AR, E get their
  defaults in `m()` itself.
-/
import Mathlib.Tactic.Tauto
import Cvss.Lemmas.Str
import Cvss.Lemmas.V3
import Cvss.Model.V4
import Cvss.Spec.V4
namespace Cvss.Lemmas.V4
open Cvss Cvss.Model

theorem fillModified_spec (L : List Str) : ∀ (m : MMap),
    L.Nodup → (∀ a ∈ L, a.drop 1 ∉ L) → (∀ a ∈ L, (lookup (a.drop 1) m).isSome) →
    ∃ m1, V4.fillModified m L = some m1 ∧
      ∀ k, lookup k m1 =
        if k ∈ L ∧ (lookup k m = none ∨ lookup k m = some V4.X) then lookup (k.drop 1) m
        else lookup k m := by
  intro m hnd hdrop hbase
  obtain ⟨full, h1, h2⟩ := Lemmas.V3.addMissingOptional_spec L hnd hdrop m hbase
  refine ⟨full, (fillModified_eq L m).trans h1, fun k => ?_⟩
  rw [h2 k]
  have e : (lookup k m).getD V3.X = V3.X ↔ (lookup k m = none ∨ lookup k m = some V4.X) := by
    cases lookup k m <;> simp [show V4.X = V3.X from rfl]
  simp only [e]

theorem fillDefaults_spec (L : List Str) : ∀ (m : MMap) (k : Str),
    lookup k (V4.fillDefaults m L) =
      if k ∈ L ∧ lookup k m = none then some V4.X else lookup k m := by
  induction L with
  | nil => intro m k; simp [V4.fillDefaults]
  | cons a rest ih =>
    intro m k
    rw [V4.fillDefaults]
    by_cases hk : hasKey a m = true
    · rw [if_pos hk, ih]
      by_cases hka : k = a
      · subst hka
        have : lookup k m ≠ none := by
          unfold hasKey at hk
          intro h; rw [h] at hk; simp at hk
        simp [this]
      · simp [hka]
    · rw [if_neg hk, ih, lookup_insert]
      have hnone : lookup a m = none := by
        unfold hasKey at hk
        cases h : lookup a m with
        | none => rfl
        | some v => rw [h] at hk; simp at hk
      by_cases hka : k = a
      · subst hka; simp [hnone]
      · simp [hka]

/-- the proposition `C02.ValidMap` (stated in `Props/C02.lean`, which imports this file) -/
def Valid (m : MMap) : Prop :=
  (∀ k v, lookup k m = some v → ∃ vs, lookup k V4.tables.legal = some vs ∧ v ∈ vs) ∧
  (∀ k ∈ V4.tables.mandatory, (lookup k m).isSome)

/-- look-up in the map completed by `add_missing_optional`, in terms of the original map -/
def fullLookup (m : MMap) (k : Str) : Option Str :=
  let l1 := if k ∈ V4.modifiedMetrics ∧ (lookup k m = none ∨ lookup k m = some V4.X)
    then lookup (k.drop 1) m else lookup k m
  if k ∈ V4.defaultedMetrics ∧ l1 = none then some V4.X else l1

theorem full_spec (m : MMap) (hv : Valid m) :
    ∃ m1, V4.fillModified m V4.modifiedMetrics = some m1 ∧
      ∀ k, lookup k (V4.fillDefaults m1 V4.defaultedMetrics) = fullLookup m k := by
  obtain ⟨m1, h1, h2⟩ := fillModified_spec V4.modifiedMetrics m (by decide +kernel) (by decide +kernel)
    (fun a ha => hv.2 _ ((by decide : ∀ a ∈ V4.modifiedMetrics, a.drop 1 ∈ V4.tables.mandatory) a ha))
  refine ⟨m1, h1, fun k => ?_⟩
  rw [fillDefaults_spec, h2 k]
  rfl

def legalOf (k : Str) : List Str := (lookup k V4.tables.legal).getD []

theorem valid_legal {m : MMap} (hv : Valid m) {k v : Str} (h : lookup k m = some v) : v ∈ legalOf k := by
  obtain ⟨vs, h1, h2⟩ := hv.1 k v h
  unfold legalOf; rw [h1]; exact h2

theorem valid_none {m : MMap} (hv : Valid m) {k : Str} (h : lookup k V4.tables.legal = none) :
    lookup k m = none := by
  cases hl : lookup k m with
  | none => rfl
  | some v =>
    obtain ⟨vs, h1, _⟩ := hv.1 k v hl
    rw [h] at h1
    cases h1

/-- the metrics whose undefined value has a default effective value -/
def dfltMetrics : List Str := [c!"CR", c!"IR", c!"AR", c!"E"]

/-- for a mandatory `k` or one of `dfltMetrics`: a list with its effective value on every valid map -/
def effCands (k : Str) : List Str :=
  if k ∈ Gen.V4.mandatory then legalOf k ++ (legalOf ('M' :: k)).filter (· ≠ V4.X)
  else (if k = c!"E" then c!"A" else c!"H") :: (legalOf k).filter (· ≠ V4.X)

/-- what `compute_base_score` reads of a completed metric map: the effective values of the assignment `a`
    (last conjunct: EQ4 tests `m("MSI")`, `m("MSA")`) -/
def Reads (full : MMap) (a : Str → Str) : Prop :=
  (∀ k ∈ V4.distMetrics, V4.mEff full k = some (Spec.V4.eff a k)) ∧
  V4.mEff full c!"E" = some (Spec.V4.eff a c!"E") ∧
  (∀ k ∈ [c!"SI", c!"SA"], V4.mEff full ('M' :: k) = some (Spec.V4.eff a k))

/-- the library's tests for EQ1 = 1 and EQ3 = 1 repeat the negation of the test before them -/
theorem eq1_lib : ∀ n p u q : Bool,
    (if n && p && u then 0 else if (n || p || u) && !(n && p && u) && !q then 1 else 2 : Nat) =
      if n && p && u then 0 else if (n || p || u) && !q then 1 else 2 := by decide

theorem eq3_lib : ∀ c i v : Bool,
    (if c && i then 0 else if !(c && i) && (c || i || v) then 1 else 2 : Nat) =
      if c && i then 0 else if c || i || v then 1 else 2 := by decide

theorem macroVector_of_reads {full : MMap} {a : Str → Str} (hr : Reads full a)
    (hE : Spec.V4.eff a c!"E" = c!"A" ∨ Spec.V4.eff a c!"E" = c!"P" ∨ Spec.V4.eff a c!"E" = c!"U") :
    V4.macroVector full =
      some [(Spec.V4.macroVector a).eq1, (Spec.V4.macroVector a).eq2, (Spec.V4.macroVector a).eq3,
        (Spec.V4.macroVector a).eq4, (Spec.V4.macroVector a).eq5, (Spec.V4.macroVector a).eq6] := by
  obtain ⟨hd, eE, hM⟩ := hr
  simp only [V4.distMetrics, List.forall_mem_cons, List.not_mem_nil, false_imp_iff, implies_true, and_true] at hd hM
  obtain ⟨eAV, ePR, eUI, eAC, eAT, eVC, eVI, eVA, eSC, eSI, eSA, eCR, eIR, eAR⟩ := hd
  obtain ⟨eMSI, eMSA⟩ := hM
  unfold V4.macroVector Spec.V4.macroVector
  simp only [eAV, ePR, eUI, eAC, eAT, eVC, eVI, eVA, eSC, eSI, eSA, eMSI, eMSA, eCR, eIR, eAR, eE,
    Option.some.injEq]
  generalize Spec.V4.eff a = e at hE
  have h5 : (if decide (e c!"E" = c!"A") = true then some 0
      else if decide (e c!"E" = c!"P") = true then some 1
      else if decide (e c!"E" = c!"U") = true then some 2 else none) =
      some (if decide (e c!"E" = c!"A") = true then 0 else if decide (e c!"E" = c!"P") = true then 1 else 2) := by
    rcases hE with h | h | h <;> rw [h] <;> decide
  rw [h5]
  simp only [Option.some.injEq, List.cons.injEq, and_true]
  exact ⟨eq1_lib _ _ _ _, trivial, eq3_lib _ _ _⟩

section eff
variable {m : MMap} (hv : Valid m)
include hv

theorem full_modified {k : Str} (hk : k ∈ Gen.V4.mandatory) :
    fullLookup m ('M' :: k) = some (Spec.V4.eff (assignment V4.X m) k) ∧
    Spec.V4.eff (assignment V4.X m) k ∈ effCands k := by
  have hfacts := (by decide +kernel : ∀ k ∈ Gen.V4.mandatory,
    ('M' :: k) ∈ V4.modifiedMetrics ∧ ('M' :: k) ∉ V4.defaultedMetrics ∧
    k ≠ c!"E" ∧ k ≠ c!"CR" ∧ k ≠ c!"IR" ∧ k ≠ c!"AR") k hk
  obtain ⟨mMod, mNotDflt, neE, neCR, neIR, neAR⟩ := hfacts
  obtain ⟨v, hkv⟩ := Option.isSome_iff_exists.mp (hv.2 k hk)
  have heff : Spec.V4.eff (assignment V4.X m) k =
      if (lookup ('M' :: k) m).getD V4.X ≠ V4.X then (lookup ('M' :: k) m).getD V4.X else v := by
    unfold Spec.V4.eff assignment
    rw [if_neg neE, if_neg (by simp [neCR, neIR, neAR]), hkv]
    rfl
  have hc : effCands k = legalOf k ++ (legalOf ('M' :: k)).filter (· ≠ V4.X) := by
    unfold effCands; rw [if_pos hk]
  refine ⟨?_, ?_⟩
  · unfold fullLookup
    simp only [mMod, mNotDflt, true_and, false_and, if_false, List.drop_succ_cons, List.drop_zero]
    rw [heff]
    cases lookup ('M' :: k) m with
    | none => simp [hkv]
    | some w =>
      by_cases hw : w = V4.X
      · simp [hw, hkv]
      · simp [hw]
  · rw [heff, hc]
    cases hM : lookup ('M' :: k) m with
    | none => simp [valid_legal hv hkv]
    | some w =>
      by_cases hw : w = V4.X
      · simp [hw, valid_legal hv hkv]
      · simp only [Option.getD_some, ne_eq, hw, not_false_eq_true, if_true]
        exact List.mem_append_right _ (List.mem_filter.mpr ⟨valid_legal hv hM, by simpa using hw⟩)

theorem full_dflt {k : Str} (hk : k ∈ dfltMetrics) :
    fullLookup m k = some (assignment V4.X m k) ∧ fullLookup m ('M' :: k) = none ∧
    Spec.V4.eff (assignment V4.X m) k =
      (if assignment V4.X m k = V4.X then (if k = c!"E" then c!"A" else c!"H") else assignment V4.X m k) ∧
    Spec.V4.eff (assignment V4.X m) k ∈ effCands k := by
  have hfacts := (by decide +kernel : ∀ k ∈ dfltMetrics,
    k ∉ V4.modifiedMetrics ∧ k ∈ V4.defaultedMetrics ∧ ('M' :: k) ∉ V4.modifiedMetrics ∧
    ('M' :: k) ∉ V4.defaultedMetrics ∧ lookup ('M' :: k) V4.tables.legal = none ∧
    k ∉ Gen.V4.mandatory ∧ (k = c!"E" ∨ k = c!"CR" ∨ k = c!"IR" ∨ k = c!"AR")) k hk
  obtain ⟨notMod, isDflt, mNotMod, mNotDflt, mNoRow, notMand, which⟩ := hfacts
  have heff : Spec.V4.eff (assignment V4.X m) k =
      (if assignment V4.X m k = V4.X then (if k = c!"E" then c!"A" else c!"H") else assignment V4.X m k) := by
    unfold Spec.V4.eff
    by_cases hE : k = c!"E"
    · rw [if_pos hE, if_pos hE]; rfl
    · rw [if_neg hE, if_neg hE]
      have : k = c!"CR" ∨ k = c!"IR" ∨ k = c!"AR" := by
        rcases which with h | h
        · exact absurd h hE
        · exact h
      rw [if_pos this]; rfl
  refine ⟨?_, ?_, heff, ?_⟩
  · unfold fullLookup assignment
    simp only [notMod, isDflt, false_and, true_and, if_false]
    cases lookup k m <;> simp
  · unfold fullLookup
    simp [mNotMod, mNotDflt, valid_none hv mNoRow]
  · rw [heff]
    unfold effCands
    rw [if_neg notMand]
    by_cases hX : assignment V4.X m k = V4.X
    · rw [if_pos hX]; exact List.mem_cons_self
    · rw [if_neg hX]
      apply List.mem_cons_of_mem
      unfold assignment at hX ⊢
      cases hl : lookup k m with
      | none => rw [hl] at hX; exact absurd rfl hX
      | some w =>
        rw [hl] at hX
        exact List.mem_filter.mpr ⟨valid_legal hv hl, by simpa using hX⟩

theorem eff_E_cases : Spec.V4.eff (assignment V4.X m) c!"E" = c!"A" ∨
    Spec.V4.eff (assignment V4.X m) c!"E" = c!"P" ∨ Spec.V4.eff (assignment V4.X m) c!"E" = c!"U" := by
  have h := (full_dflt hv (k := c!"E") (by decide)).2.2.2
  have hc : effCands c!"E" = [c!"A", c!"A", c!"P", c!"U"] := by decide +kernel
  rw [hc] at h
  simp only [List.mem_cons, List.not_mem_nil, or_false] at h
  tauto

variable {full : MMap} (hfull : ∀ k, lookup k full = fullLookup m k)
include hfull

theorem mEff_base {k : Str} (hk : k ∈ Gen.V4.mandatory) :
    V4.mEff full k = some (Spec.V4.eff (assignment V4.X m) k) := by
  obtain ⟨h1, h4⟩ := full_modified hv hk
  obtain ⟨neE, neCR, neIR, neAR, noX⟩ := (by decide +kernel : ∀ k ∈ Gen.V4.mandatory,
    k ≠ c!"E" ∧ k ≠ c!"CR" ∧ k ≠ c!"IR" ∧ k ≠ c!"AR" ∧ V4.X ∉ effCands k) k hk
  have hX : Spec.V4.eff (assignment V4.X m) k ≠ V4.X := fun h => noX (h ▸ h4)
  unfold V4.mEff
  simp only [neE, neCR, neIR, neAR, false_and, if_false, hfull, h1]
  simp [hX]

theorem mEff_dflt {k : Str} (hk : k ∈ dfltMetrics) :
    V4.mEff full k = some (Spec.V4.eff (assignment V4.X m) k) := by
  obtain ⟨h1, h2, h3, -⟩ := full_dflt hv hk
  unfold V4.mEff
  simp only [hfull, h1, h2, h3]
  simp only [dfltMetrics, List.mem_cons, List.not_mem_nil, or_false] at hk
  by_cases hX : assignment V4.X m k = V4.X
  · rcases hk with rfl | rfl | rfl | rfl <;> simp [hX]
  · simp [hX]

/-- the library's EQ4 test reads `m("MSI")`, `m("MSA")` -/
theorem mEff_modS {k : Str} (hk : k ∈ [c!"SI", c!"SA"]) :
    V4.mEff full ('M' :: k) = some (Spec.V4.eff (assignment V4.X m) k) := by
  obtain ⟨isMand, neE, neCR, neIR, neAR, mmNotMod, mmNotDflt, mmNoRow⟩ :=
    (by decide +kernel : ∀ k ∈ [c!"SI", c!"SA"],
    k ∈ Gen.V4.mandatory ∧
    ('M' :: k) ≠ c!"E" ∧ ('M' :: k) ≠ c!"CR" ∧ ('M' :: k) ≠ c!"IR" ∧ ('M' :: k) ≠ c!"AR" ∧
    ('M' :: 'M' :: k) ∉ V4.modifiedMetrics ∧ ('M' :: 'M' :: k) ∉ V4.defaultedMetrics ∧
    lookup ('M' :: 'M' :: k) V4.tables.legal = none) k hk
  have h1 := (full_modified hv isMand).1
  have hMM : fullLookup m ('M' :: 'M' :: k) = none := by
    unfold fullLookup
    simp [mmNotMod, mmNotDflt, valid_none hv mmNoRow]
  unfold V4.mEff
  simp only [neE, neCR, neIR, neAR, false_and, if_false, hfull, h1, hMM]

theorem reads_full : Reads full (assignment V4.X m) := by
  refine ⟨fun k hk => ?_, mEff_dflt hv hfull (by decide), fun k hk => mEff_modS hv hfull hk⟩
  rcases (by decide : ∀ k ∈ V4.distMetrics, k ∈ Gen.V4.mandatory ∨ k ∈ dfltMetrics) k hk with h | h
  · exact mEff_base hv hfull h
  · exact mEff_dflt hv hfull h

/-- stated for its own sake; C02 uses `macroVector_of_reads` -/
theorem macroVector_eq :
    V4.macroVector full =
      some [(Spec.V4.macroVector (assignment V4.X m)).eq1, (Spec.V4.macroVector (assignment V4.X m)).eq2,
        (Spec.V4.macroVector (assignment V4.X m)).eq3, (Spec.V4.macroVector (assignment V4.X m)).eq4,
        (Spec.V4.macroVector (assignment V4.X m)).eq5, (Spec.V4.macroVector (assignment V4.X m)).eq6] :=
  macroVector_of_reads (reads_full hv hfull) (eff_E_cases hv)

end eff

theorem effCands_level : (Spec.V4.levelTable.all fun (k, row) =>
    (decide (k ∈ Gen.V4.mandatory) || decide (k ∈ dfltMetrics)) &&
    (effCands k).all fun v => (lookup v row).isSome) = true := by decide +kernel

theorem eff_legal {m : MMap} (hv : Valid m) :
    ∀ p ∈ Spec.V4.levelTable, (lookup (Spec.V4.eff (assignment V4.X m) p.1) p.2).isSome := by
  intro p hp
  have h := List.all_eq_true.mp effCands_level p hp
  obtain ⟨k, row⟩ := p
  simp only [Bool.and_eq_true, Bool.or_eq_true, decide_eq_true_eq, List.all_eq_true] at h
  obtain ⟨hk, hall⟩ := h
  apply hall
  rcases hk with hk | hk
  · exact (full_modified hv hk).2
  · exact (full_dflt hv hk).2.2.2

end Cvss.Lemmas.V4
