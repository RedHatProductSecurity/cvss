/-
  The parser theorems (C04) put together with the scoring theorems (C01, C02, C03): scoring cannot fail on the map `parse`
  returns (an `Accepted` one), so a constructor succeeds exactly when `parse` does and fails exactly when parsing fails,
  with the parser's error.
-/
import Cvss.Props.C01
import Cvss.Props.C02
import Cvss.Props.C03
import Cvss.Props.C04
namespace Cvss.Lemmas.Construct
open Cvss Cvss.Model Cvss.Props

theorem validMap2_of_parse {s : Str} {m : MMap} (h : V2.parse s = .ok m) : C03.ValidMap m :=
  ((C04.v2_parse_iff s m).1 h).2.valid

theorem validMap3_of_parse {s : Str} {i : Nat} {m : MMap} (h : V3.parse s = .ok (i, m)) : C01.ValidMap m :=
  ((C04.v3_parse_iff s i m).1 h).2.2.valid

theorem validMap4_of_parse {s : Str} {m : MMap} (h : V4.parse s = .ok m) : C02.ValidMap m :=
  ((C04.v4_parse_iff s m).1 h).2.valid

theorem v2_construct_ok_iff (s : Str) (o : V2.Obj) :
    V2.construct s = .ok o ↔ ∃ m, V2.parse s = .ok m ∧
      o = { vector := s, metrics := m, base := Spec.V2.baseScore (assignment V2.ND m),
            temporal := Spec.V2.temporalScore (assignment V2.ND m),
            env := Spec.V2.environmentalScore (assignment V2.ND m) } := by
  unfold V2.construct
  cases hp : V2.parse s with
  | error e => simp
  | ok m =>

    simp only [C03.v2_scores_eq_spec m (validMap2_of_parse hp), eq_comm, Except.ok.injEq, exists_eq_left']

theorem v2_construct_error_iff (s : Str) (e : Err) : V2.construct s = .error e ↔ V2.parse s = .error e := by
  unfold V2.construct
  cases hp : V2.parse s with
  | error e' => simp only [Except.error.injEq]
  | ok m => simp only [C03.v2_scores_eq_spec m (validMap2_of_parse hp), reduceCtorEq]

theorem v3_construct_ok_iff (s : Str) (o : V3.Obj) :
    V3.construct s = .ok o ↔ ∃ i m, V3.parse s = .ok (i, m) ∧ V3.build s i m = some o := by
  unfold V3.construct
  rcases V3.parse s with e | ⟨i, m⟩
  · simp
  · cases hb : V3.build s i m <;> simp [hb]

theorem v3_construct_error_iff (s : Str) (e : Err) : V3.construct s = .error e ↔ V3.parse s = .error e := by
  unfold V3.construct
  cases hp : V3.parse s with
  | error e' => simp only [Except.error.injEq]
  | ok r =>
    obtain ⟨o, ho, -⟩ := C01.v3_build_eq_spec s r.1 r.2 (validMap3_of_parse hp)
    simp [ho]

/-- what `add_missing_optional` left in `metrics` of a constructed v3 object -/
theorem v3_metrics_getD {s : Str} {o : V3.Obj} (h : V3.construct s = .ok o) (k : Str) :
    (lookup k o.metrics).getD V3.X =
      if k ∈ V3.modifiedMetrics ∧ assignment V3.X o.orig k = V3.X then assignment V3.X o.orig (k.drop 1)
      else assignment V3.X o.orig k := by
  obtain ⟨i, m, hp, hb⟩ := (v3_construct_ok_iff s o).1 h
  obtain ⟨o', ho', -, -, rfl, -, -, -, h7⟩ := C01.v3_build_eq_spec s i m (validMap3_of_parse hp)
  cases hb.symm.trans ho'
  rw [h7 k]
  split <;> rfl

theorem v4_construct_ok_iff (s : Str) (o : V4.Obj) :
    V4.construct s = .ok o ↔ ∃ m, V4.parse s = .ok m ∧ V4.build s m = some o := by
  unfold V4.construct
  rcases V4.parse s with e | m
  · simp
  · cases hb : V4.build s m <;> simp [hb]

theorem v4_construct_error_iff (s : Str) (e : Err) : V4.construct s = .error e ↔ V4.parse s = .error e := by
  unfold V4.construct
  cases hp : V4.parse s with
  | error e' => simp only [Except.error.injEq]
  | ok m =>
    obtain ⟨o, ho, -⟩ := C02.v4_build_eq_spec s m (validMap4_of_parse hp)
    simp [ho]

theorem v4_severity {s : Str} {o : V4.Obj} (h : V4.construct s = .ok o) : o.severity = V4.sevOf o.base := by
  obtain ⟨m, hp, hb⟩ := (v4_construct_ok_iff s o).1 h
  obtain ⟨o', ho', -, -, -, h4⟩ := C02.v4_build_eq_spec s m (validMap4_of_parse hp)
  cases hb.symm.trans ho'
  exact h4

/-- whatever the string, a constructor that fails raises its version's malformed-vector or mandatory-metric error -/
theorem construct_error {v : Ver} {s : Str} {e : Err} (h : construct v s = .error e) :
    e = .malformed ∨ e = .mandatory := by
  cases v with
  | v2 => exact C04.v2_parse_error s e ((v2_construct_error_iff s e).1 (map_error_iff.1 h))
  | v3 => exact C04.v3_parse_error s e ((v3_construct_error_iff s e).1 (map_error_iff.1 h))
  | v4 => exact C04.v4_parse_error s e ((v4_construct_error_iff s e).1 (map_error_iff.1 h))

theorem construct_never_foreign (v : Ver) (s : Str) : construct v s ≠ .error .foreign :=
  fun h => by cases construct_error h <;> contradiction

end Cvss.Lemmas.Construct
