/-
  Severity distances on numeric levels, for C02 and C14 (v4.0): `lv a k` is the severity level of the effective value
  of metric `k` (0 = most severe); `domN`, `distN`, `distanceN` are the specification's `dominates`, `distFrom`,
  `distance` on lists of levels.  For each of the four groups of metrics that share a distance: a highest-severity
  vector dominates, the choice is irrelevant (all vectors of a class have the same level sum), and what one severity
  step does to class and distance.
  The file declares into the namespace `Cvss.Lemmas.V4Search`, which `Lemmas/V4Search.lean` continues: `LegalEff`
  and `lv` are defined here.
-/
import Cvss.Lemmas.V4Table
namespace Cvss.Lemmas.V4Search
open Cvss Cvss.Lemmas.V4Table

def lv (a : Str → Str) (k : Str) : Nat := Spec.V4.level k (Spec.V4.eff a k)

def levelsOf (mx : List (Str × Str)) : List Nat := mx.map fun p => Spec.V4.level p.1 p.2

def domN : List Nat → List Nat → Bool
  | l :: ls, x :: xs => decide (x ≤ l) && domN ls xs
  | _, _ => true

def distN : List Nat → List Nat → Nat
  | l :: ls, x :: xs => (l - x) + distN ls xs
  | _, _ => 0

def distanceN (ls : List Nat) (ms : List (List Nat)) : Nat :=
  match ms.find? (domN ls) with
  | some mx => distN ls mx
  | none => 0

theorem dominates_eq (a : Str → Str) : ∀ mx : List (Str × Str),
    Spec.V4.dominates a mx = domN ((keys mx).map (lv a)) (levelsOf mx)
  | [] => rfl
  | p :: r => by
    have ih := dominates_eq a r
    simp only [Spec.V4.dominates] at ih
    simp only [Spec.V4.dominates, keys, levelsOf, List.all_cons, List.map_cons, domN, ih, lv]

theorem distFrom_eq (a : Str → Str) : ∀ mx : List (Str × Str),
    Spec.V4.distFrom a mx = distN ((keys mx).map (lv a)) (levelsOf mx)
  | [] => rfl
  | p :: r => by
    have ih := distFrom_eq a r
    simp only [Spec.V4.distFrom] at ih
    simp only [Spec.V4.distFrom, keys, levelsOf, List.map_cons, List.sum_cons, distN, ih, lv]

theorem distance_eq (a : Str → Str) (ks : List Str) : ∀ (maxes : List (List (Str × Str))),
    (∀ mx ∈ maxes, keys mx = ks) →
    Spec.V4.distance a maxes = distanceN (ks.map (lv a)) (maxes.map levelsOf)
  | [], _ => rfl
  | mx :: r, h => by
    have hk := h mx List.mem_cons_self
    have h1 : Spec.V4.dominates a mx = domN (ks.map (lv a)) (levelsOf mx) := hk ▸ dominates_eq a mx
    have h2 : Spec.V4.distFrom a mx = distN (ks.map (lv a)) (levelsOf mx) := hk ▸ distFrom_eq a mx
    have h3 := distance_eq a ks r fun mx' hm => h mx' (List.mem_cons_of_mem _ hm)
    unfold Spec.V4.distance distanceN at h3 ⊢
    simp only [List.map_cons, List.find?_cons, ← h1]
    cases Spec.V4.dominates a mx with
    | true => simp only [h2]
    | false => exact h3

def LegalEff (a : Str → Str) : Prop :=
  ∀ p ∈ Spec.V4.levelTable, (lookup (Spec.V4.eff a p.1) p.2).isSome

/-! Up to `Grp`: what a group needs on lists of levels (tokens, level sums, the box and a step in it). -/

def atLevel (k v : Str) (n : Nat) : Bool :=
  match lookup k Spec.V4.levelTable with
  | none => false
  | some row => row.all fun q => decide (q.1 = v) == (q.2 == n)

def levelsIn (k : Str) (lo hi : Nat) : Bool :=
  match lookup k Spec.V4.levelTable with
  | none => false
  | some row => row.all fun q => decide (lo ≤ q.2) && decide (q.2 < hi)

theorem level_of_lookup {k v : Str} {row : List (Str × Nat)} {n : Nat}
    (hrow : lookup k Spec.V4.levelTable = some row) (hn : lookup v row = some n) : Spec.V4.level k v = n := by
  unfold Spec.V4.level
  rw [hrow]
  exact congrArg (·.getD 0) hn

theorem lv_row {a : Str → Str} (hl : LegalEff a) {k : Str} {row : List (Str × Nat)}
    (hrow : lookup k Spec.V4.levelTable = some row) :
    (Spec.V4.eff a k, lv a k) ∈ row := by
  have h1 := hl (k, row) (lookup_mem hrow)
  obtain ⟨n, hn⟩ := Option.isSome_iff_exists.mp h1
  simp only at hn
  rw [show lv a k = n from level_of_lookup hrow hn]
  exact lookup_mem hn

/-- the side condition is a look-up in the level table: it is evaluated where the lemma is used -/
theorem is_lv {a : Str → Str} (hl : LegalEff a) (k v : Str) (n : Nat)
    (h : atLevel k v n = true := by decide +kernel) :
    decide (Spec.V4.eff a k = v) = (lv a k == n) := by
  unfold atLevel at h
  cases hrow : lookup k Spec.V4.levelTable with
  | none => rw [hrow] at h; cases h
  | some row =>
    rw [hrow] at h
    have := List.all_eq_true.mp h _ (lv_row hl hrow)
    exact eq_of_beq this

theorem lv_bounds {a : Str → Str} (hl : LegalEff a) (k : Str) (lo hi : Nat)
    (h : levelsIn k lo hi = true := by decide +kernel) : lo ≤ lv a k ∧ lv a k < hi := by
  unfold levelsIn at h
  cases hrow : lookup k Spec.V4.levelTable with
  | none => rw [hrow] at h; cases h
  | some row =>
    rw [hrow] at h
    have := List.all_eq_true.mp h _ (lv_row hl hrow)
    simpa using this

theorem distN_add_sum : ∀ (ls mx : List Nat), ls.length = mx.length → domN ls mx = true →
    distN ls mx + mx.sum = ls.sum
  | [], [], _, _ => rfl
  | l :: ls, x :: xs, hl, hd => by
    simp only [domN, Bool.and_eq_true, decide_eq_true_eq] at hd
    have := distN_add_sum ls xs (by simpa using hl) hd.2
    simp only [distN, List.sum_cons]
    omega
  | [], _ :: _, hl, _ => by simp at hl
  | _ :: _, [], hl, _ => by simp at hl

/-- all vectors of a class have the same level sum `σ`, so every dominating one is at distance `Σ levels − σ` -/
theorem distanceN_sum {ls : List Nat} {ms : List (List Nat)} {σ : Nat}
    (hσ : ∀ mx ∈ ms, mx.length = ls.length ∧ mx.sum = σ) (hex : ms.any (domN ls) = true) :
    distanceN ls ms + σ = ls.sum ∧ ∀ mx ∈ ms, domN ls mx = true → distN ls mx = distanceN ls ms := by
  have hd : ∀ mx ∈ ms, domN ls mx = true → distN ls mx + σ = ls.sum := fun mx hm h => by
    rw [← (hσ mx hm).2]
    exact distN_add_sum ls mx (hσ mx hm).1.symm h
  obtain ⟨mx, hmx⟩ := Option.isSome_iff_exists.mp (List.find?_isSome.mpr (List.any_eq_true.mp hex))
  have h0 : distanceN ls ms = distN ls mx := by
    unfold distanceN
    rw [hmx]
  have h1 := hd mx (List.mem_of_find?_eq_some hmx) (List.find?_some hmx)
  exact ⟨by omega, fun mx' hm' h' => by have := hd mx' hm' h'; omega⟩

def allTuples : List (Nat × Nat) → (List Nat → Bool) → Bool
  | [], p => p []
  | (lo, hi) :: r, p => (List.range hi).all fun x => decide (x < lo) || allTuples r fun xs => p (x :: xs)

def inBox : List (Nat × Nat) → List Nat → Bool
  | [], [] => true
  | (lo, hi) :: r, x :: xs => decide (lo ≤ x) && decide (x < hi) && inBox r xs
  | _, _ => false

theorem allTuples_sound : ∀ {R : List (Nat × Nat)} {p : List Nat → Bool}, allTuples R p = true →
    ∀ ls, inBox R ls = true → p ls = true
  | [], _, h, [], _ => h
  | (lo, hi) :: r, p, h, x :: xs, hb => by
    simp only [allTuples, List.all_eq_true, List.mem_range, Bool.or_eq_true, decide_eq_true_eq] at h
    simp only [inBox, Bool.and_eq_true, decide_eq_true_eq] at hb
    exact allTuples_sound ((h x hb.1.2).resolve_left (by omega)) xs hb.2
  | [], _, _, _ :: _, hb => by cases hb
  | _ :: _, _, _, [], hb => by cases hb

/-- the tuples of the box with one level lowered by one -/
def below : List (Nat × Nat) → List Nat → List (List Nat)
  | (lo, _) :: R, x :: r => (if x ≤ lo then [] else [(x - 1) :: r]) ++ (below R r).map (x :: ·)
  | _, _ => []

theorem sum_of_mem_below : ∀ {R : List (Nat × Nat)} {ls ls' : List Nat}, ls' ∈ below R ls → ls'.sum + 1 = ls.sum
  | (lo, _) :: R, x :: r, ls', h => by
    simp only [below, List.mem_append, List.mem_map] at h
    rcases h with h | ⟨r', hr', rfl⟩
    · split at h
      · cases h
      · obtain rfl := List.mem_singleton.mp h
        simp only [List.sum_cons]
        omega
    · have := sum_of_mem_below hr'
      simp only [List.sum_cons]
      omega
  | [], _, _, h => by cases h
  | _ :: _, [], _, h => by cases h

theorem map_mem_below {f f' : Str → Nat} {k : Str} (h1 : f' k + 1 = f k) :
    ∀ {ks : List Str} {R : List (Nat × Nat)}, ks.Nodup → k ∈ ks → (∀ j ∈ ks, j ≠ k → f' j = f j) →
      inBox R (ks.map f') = true → ks.map f' ∈ below R (ks.map f)
  | j :: ks, (lo, hi) :: R, hks, hk, h2, hb => by
    obtain ⟨hj, hks⟩ := List.nodup_cons.mp hks
    simp only [List.map_cons, inBox, Bool.and_eq_true, decide_eq_true_eq] at hb
    simp only [List.map_cons, below, List.mem_append, List.mem_map]
    by_cases hjk : j = k
    · subst hjk
      have e : ks.map f' = ks.map f :=
        List.map_congr_left fun i hi => h2 i (List.mem_cons_of_mem _ hi) fun h => hj (h ▸ hi)
      refine Or.inl ?_
      rw [if_neg (by omega), e, List.mem_singleton]
      congr 1
      omega
    · have hk' : k ∈ ks := (List.mem_cons.mp hk).resolve_left fun h => hjk h.symm
      refine Or.inr ⟨ks.map f', map_mem_below h1 hks hk' (fun i hi => h2 i (List.mem_cons_of_mem _ hi)) hb.2, ?_⟩
      rw [h2 j List.mem_cons_self hjk]
  | _ :: _, [], _, _, _, hb => by cases hb

structure Grp where
  keys : List Str
  /-- the range `[lo, hi)` of the levels of each metric -/
  box : List (Nat × Nat)
  /-- the equivalence class of a tuple of levels (second component: EQ6 for the joint group, else 0) -/
  cls : List Nat → Nat × Nat
  /-- the levels of the highest-severity vectors of a class -/
  maxN : Nat × Nat → List (List Nat)
  /-- their common level sum (`Grp.ok` checks it against `maxN`) -/
  sig : Nat × Nat → Nat
  /-- an upper bound of the severity distances inside a class (`Grp.ok` checks it as such): the specification's
      depth (MaxSeverity) less one -/
  dmax : Nat × Nat → Nat
  /-- the changes of class that one severity step can cause -/
  pairs : List ((Nat × Nat) × (Nat × Nat))

def Grp.dist (G : Grp) (ls : List Nat) : Nat := distanceN ls (G.maxN (G.cls ls))

/-- `Nat.beq`: cheaper in the kernel than `==` through the instances of `Prod` -/
def eqC (c c' : Nat × Nat) : Bool := Nat.beq c.1 c'.1 && Nat.beq c.2 c'.2

theorem eqC_iff {c c' : Nat × Nat} : eqC c c' = true ↔ c = c' := by
  obtain ⟨a, b⟩ := c
  obtain ⟨a', b'⟩ := c'
  simp only [eqC, Bool.and_eq_true, Nat.beq_eq, Prod.mk.injEq]

/-- everything the proofs use about the levels of a group, checked on every tuple of its box -/
def Grp.ok (G : Grp) : Bool := allTuples G.box fun ls =>
  (G.maxN (G.cls ls)).any (domN ls) &&
  (G.maxN (G.cls ls)).all (fun mx => Nat.beq mx.length ls.length && Nat.beq mx.sum (G.sig (G.cls ls))) &&
  Nat.ble ls.sum (G.dmax (G.cls ls) + G.sig (G.cls ls)) &&
  (below G.box ls).all fun ls' =>
    eqC (G.cls ls') (G.cls ls) || G.pairs.any fun p => eqC p.1 (G.cls ls) && eqC p.2 (G.cls ls')

theorem Grp.facts {G : Grp} (h : G.ok = true) {ls : List Nat} (hb : inBox G.box ls = true) :
    (G.maxN (G.cls ls)).any (domN ls) = true ∧
    (G.dist ls + G.sig (G.cls ls) = ls.sum ∧
      ∀ mx ∈ G.maxN (G.cls ls), domN ls mx = true → distN ls mx = G.dist ls) ∧
    G.dist ls ≤ G.dmax (G.cls ls) ∧
    ∀ ls' ∈ below G.box ls, G.cls ls' = G.cls ls ∨ (G.cls ls, G.cls ls') ∈ G.pairs := by
  have h := allTuples_sound h ls hb
  simp only [Bool.and_eq_true, List.all_eq_true, Nat.beq_eq, Nat.ble_eq, Bool.or_eq_true,
    List.any_eq_true, eqC_iff] at h
  obtain ⟨⟨⟨hex, hσ⟩, hmax⟩, hstep⟩ := h
  have hs := distanceN_sum hσ (List.any_eq_true.mpr hex)
  refine ⟨List.any_eq_true.mpr hex, hs, ?_, fun ls' hm => ?_⟩
  · have := hs.1
    unfold Grp.dist
    omega
  · rcases hstep ls' hm with h1 | ⟨⟨c, c'⟩, hp, rfl, rfl⟩
    · exact Or.inl h1
    · exact Or.inr hp

def keys1 : List Str := [c!"AV", c!"PR", c!"UI"]
def keys2 : List Str := [c!"AC", c!"AT"]
def keys36 : List Str := [c!"VC", c!"VI", c!"VA", c!"CR", c!"IR", c!"AR"]
def keys4 : List Str := [c!"SC", c!"SI", c!"SA"]

def eq1N (av pr ui : Nat) : Nat :=
  if av == 0 && pr == 0 && ui == 0 then 0
  else if (av == 0 || pr == 0 || ui == 0) && !(av == 3) then 1
  else 2
def eq2N (ac at' : Nat) : Nat := if ac == 0 && at' == 0 then 0 else 1
def eq3N (vc vi va : Nat) : Nat :=
  if vc == 0 && vi == 0 then 0 else if vc == 0 || vi == 0 || va == 0 then 1 else 2
def eq6N (vc vi va cr ir ar : Nat) : Nat :=
  if (cr == 0 && vc == 0) || (ir == 0 && vi == 0) || (ar == 0 && va == 0) then 0 else 1
def eq4N (sc si sa : Nat) : Nat :=
  if si == 0 || sa == 0 then 0 else if sc == 1 || si == 1 || sa == 1 then 1 else 2

def max1N : Nat → List (List Nat)
  | 0 => [[0, 0, 0]]
  | 1 => [[1, 0, 0], [0, 1, 0], [0, 0, 1]]
  | _ => [[3, 0, 0], [1, 1, 1]]
def max2N : Nat → List (List Nat)
  | 0 => [[0, 0]]
  | _ => [[1, 0], [0, 1]]
def max36N : Nat → Nat → List (List Nat)
  | 0, 0 => [[0, 0, 0, 0, 0, 0]]
  | 0, _ => [[0, 0, 1, 1, 1, 0], [0, 0, 0, 1, 1, 1]]
  | 1, 0 => [[1, 0, 0, 0, 0, 0], [0, 1, 0, 0, 0, 0]]
  | 1, _ => [[1, 0, 1, 0, 1, 0], [1, 0, 0, 0, 1, 1], [0, 1, 0, 1, 0, 1], [0, 1, 1, 1, 0, 0], [1, 1, 0, 0, 0, 1]]
  | _, _ => [[1, 1, 1, 0, 0, 0]]
def max4N : Nat → List (List Nat)
  | 0 => [[1, 0, 0]]
  | 1 => [[1, 1, 1]]
  | _ => [[2, 2, 2]]

def g1 : Grp where
  keys := keys1
  box := [(0, 4), (0, 3), (0, 3)]
  cls := fun | [av, pr, ui] => (eq1N av pr ui, 0) | _ => (0, 0)
  maxN := fun c => max1N c.1
  sig := fun c => match c.1 with | 0 => 0 | 1 => 1 | _ => 3
  dmax := fun c => Spec.V4.depth1 c.1 - 1
  pairs := [((1, 0), (0, 0)), ((2, 0), (1, 0))]

def g2 : Grp where
  keys := keys2
  box := [(0, 2), (0, 2)]
  cls := fun | [ac, at'] => (eq2N ac at', 0) | _ => (0, 0)
  maxN := fun c => max2N c.1
  sig := fun c => match c.1 with | 0 => 0 | _ => 1
  dmax := fun c => Spec.V4.depth2 c.1 - 1
  pairs := [((1, 0), (0, 0))]

def g36 : Grp where
  keys := keys36
  box := [(0, 3), (0, 3), (0, 3), (0, 3), (0, 3), (0, 3)]
  cls := fun | [vc, vi, va, cr, ir, ar] => (eq3N vc vi va, eq6N vc vi va cr ir ar) | _ => (0, 0)
  maxN := fun c => max36N c.1 c.2
  sig := fun c => match c with | (0, 0) => 0 | (1, 0) => 1 | _ => 3
  dmax := fun c => Spec.V4.depth36 c.1 c.2 - 1
  pairs := [((0, 1), (0, 0)), ((1, 0), (0, 0)), ((1, 1), (0, 0)), ((1, 1), (0, 1)), ((1, 1), (1, 0)),
    ((2, 1), (1, 0)), ((2, 1), (1, 1))]

/-- SC has no level 0 -/
def g4 : Grp where
  keys := keys4
  box := [(1, 4), (0, 4), (0, 4)]
  cls := fun | [sc, si, sa] => (eq4N sc si sa, 0) | _ => (0, 0)
  maxN := fun c => max4N c.1
  sig := fun c => match c.1 with | 0 => 1 | 1 => 3 | _ => 6
  dmax := fun c => Spec.V4.depth4 c.1 - 1
  pairs := [((1, 0), (0, 0)), ((2, 0), (1, 0))]

def grp : Nat → Grp
  | 0 => g1
  | 1 => g2
  | 2 => g36
  | _ => g4

theorem grp_ok : ∀ g < 4, (grp g).ok = true := by decide +kernel

def wfMax (ks : List Str) (mx : List (Str × Str)) : Bool :=
  decide (keys mx = ks) && mx.all fun p =>
    match lookup p.1 Spec.V4.levelTable with
    | none => false
    | some row => (lookup p.2 row).isSome

theorem wf_keys {ks : List Str} {maxes : List (List (Str × Str))} (h : maxes.all (wfMax ks) = true) :
    ∀ mx ∈ maxes, keys mx = ks := by
  intro mx hmx
  have := List.all_eq_true.mp h mx hmx
  unfold wfMax at this
  simp only [Bool.and_eq_true, decide_eq_true_eq] at this
  exact this.1

theorem smax_facts : ∀ g < 4, ∀ e < 3, ∀ e' < 2,
    (smax g (e, e')).map levelsOf = (grp g).maxN (e, e') ∧ (smax g (e, e')).all (wfMax (grp g).keys) = true := by
  decide +kernel

theorem grp_nodup : ∀ g < 4, (grp g).keys.Nodup := by decide

def boxChk : List Str → List (Nat × Nat) → Bool
  | [], [] => true
  | k :: ks, (lo, hi) :: R => levelsIn k lo hi && boxChk ks R
  | _, _ => false

theorem grp_box : ∀ g < 4, boxChk (grp g).keys (grp g).box = true := by decide +kernel

section levels
variable {a : Str → Str} (hl : LegalEff a)
include hl

theorem inBox_lvs : ∀ {ks : List Str} {R : List (Nat × Nat)}, boxChk ks R = true → inBox R (ks.map (lv a)) = true
  | [], [], _ => rfl
  | k :: ks, (lo, hi) :: R, h => by
    simp only [boxChk, Bool.and_eq_true] at h
    have := lv_bounds hl _ _ _ h.1
    simp only [List.map_cons, inBox, Bool.and_eq_true, decide_eq_true_eq]
    exact ⟨this, inBox_lvs h.2⟩
  | [], _ :: _, h => by cases h
  | _ :: _, [], h => by cases h

theorem lvs_inBox {g : Nat} (hg : g < 4) : inBox (grp g).box ((grp g).keys.map (lv a)) = true :=
  inBox_lvs hl (grp_box g hg)

theorem cls_lvs : ∀ g, (grp g).cls ((grp g).keys.map (lv a)) = get (Spec.V4.macroVector a) g
  | 0 => by
    show (eq1N _ _ _, 0) = ((Spec.V4.macroVector a).eq1, 0)
    unfold Spec.V4.macroVector eq1N
    simp only [is_lv hl c!"AV" c!"N" 0, is_lv hl c!"PR" c!"N" 0, is_lv hl c!"UI" c!"N" 0,
      is_lv hl c!"AV" c!"P" 3]
  | 1 => by
    show (eq2N _ _, 0) = ((Spec.V4.macroVector a).eq2, 0)
    unfold Spec.V4.macroVector eq2N
    simp only [is_lv hl c!"AC" c!"L" 0, is_lv hl c!"AT" c!"N" 0]
  | 2 => by
    show (eq3N _ _ _, eq6N _ _ _ _ _ _) = ((Spec.V4.macroVector a).eq3, (Spec.V4.macroVector a).eq6)
    unfold Spec.V4.macroVector eq3N eq6N
    simp only [is_lv hl c!"VC" c!"H" 0, is_lv hl c!"VI" c!"H" 0, is_lv hl c!"VA" c!"H" 0,
      is_lv hl c!"CR" c!"H" 0, is_lv hl c!"IR" c!"H" 0, is_lv hl c!"AR" c!"H" 0]
  | _ + 3 => by
    show (eq4N _ _ _, 0) = ((Spec.V4.macroVector a).eq4, 0)
    unfold Spec.V4.macroVector eq4N
    simp only [is_lv hl c!"SI" c!"S" 0, is_lv hl c!"SA" c!"S" 0, is_lv hl c!"SC" c!"H" 1,
      is_lv hl c!"SI" c!"H" 1, is_lv hl c!"SA" c!"H" 1]

omit hl in
theorem smax_mv (a : Str → Str) {g : Nat} (hg : g < 4) :
    (smax g (get (Spec.V4.macroVector a) g)).map levelsOf = (grp g).maxN (get (Spec.V4.macroVector a) g) ∧
    ∀ mx ∈ smax g (get (Spec.V4.macroVector a) g), keys mx = (grp g).keys := by
  obtain ⟨h1, h2⟩ := get_lt (inRange_mv a) g
  obtain ⟨f1, f2⟩ := smax_facts g hg _ h1 _ h2
  exact ⟨f1, wf_keys f2⟩

theorem sdist_lvs {g : Nat} (hg : g < 4) : sdist a g = (grp g).dist ((grp g).keys.map (lv a)) := by
  obtain ⟨f1, f2⟩ := smax_mv a hg
  rw [sdist, distance_eq a _ _ f2, f1, Grp.dist, cls_lvs hl]

theorem class_good {g : Nat} (hg : g < 4) :
    (∃ mx ∈ smax g (get (Spec.V4.macroVector a) g), Spec.V4.dominates a mx = true) ∧
    (∀ mx ∈ smax g (get (Spec.V4.macroVector a) g), Spec.V4.dominates a mx = true →
      Spec.V4.distFrom a mx = sdist a g) := by
  obtain ⟨f1, f2⟩ := smax_mv a hg
  obtain ⟨hex, ⟨-, hall⟩, -, -⟩ := Grp.facts (grp_ok g hg) (lvs_inBox hl hg)
  rw [cls_lvs hl, ← f1] at hex hall
  constructor
  · obtain ⟨x, hx, hd⟩ := List.any_eq_true.mp hex
    obtain ⟨mx, hmx, rfl⟩ := List.mem_map.mp hx
    exact ⟨mx, hmx, by rw [dominates_eq, f2 mx hmx]; exact hd⟩
  · intro mx hmx hd
    rw [dominates_eq, f2 mx hmx] at hd
    rw [distFrom_eq, f2 mx hmx, sdist_lvs hl hg]
    exact hall _ (List.mem_map_of_mem hmx) hd

end levels

end Cvss.Lemmas.V4Search
