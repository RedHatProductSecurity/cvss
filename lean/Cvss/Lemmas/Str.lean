/-
  Lemmas about the vocabulary of `Cvss/Basic.lean` (strings split and joined, association lists as Python dicts in insertion
  order), shared by all parts of the development.
-/
import Cvss.Basic
namespace Cvss

theorem splitOn_nil (sep : Char) : splitOn sep [] = [[]] := rfl

theorem splitOn_cons_sep (sep : Char) (cs : Str) : splitOn sep (sep :: cs) = [] :: splitOn sep cs := by
  simp [splitOn, splitAux]

theorem splitOn_cons_ne {sep c : Char} {cs f : Str} {fs : List Str} (h : c ≠ sep) (hs : splitOn sep cs = f :: fs) :
    splitOn sep (c :: cs) = (c :: f) :: fs := by
  unfold splitOn at hs
  cases hs
  simp [splitOn, splitAux, h]

theorem splitOn_eq_cons (sep : Char) (s : Str) : ∃ f fs, splitOn sep s = f :: fs := ⟨_, _, rfl⟩

theorem splitOn_ne_nil (sep : Char) (s : Str) : splitOn sep s ≠ [] := by
  simp [splitOn]

theorem not_mem_of_mem_splitOn (sep : Char) (s : Str) : ∀ f ∈ splitOn sep s, sep ∉ f := by
  induction s with
  | nil => simp [splitOn, splitAux]
  | cons c cs ih =>
    obtain ⟨f₀, fs, hs⟩ := splitOn_eq_cons sep cs
    by_cases hc : c = sep
    · subst hc
      rw [splitOn_cons_sep]
      exact fun f hf => (List.mem_cons.1 hf).elim (fun e => e ▸ List.not_mem_nil) (ih f)
    · rw [splitOn_cons_ne hc hs]
      rw [hs] at ih
      intro f hf
      rcases List.mem_cons.1 hf with rfl | hf
      · exact fun hm => (List.mem_cons.1 hm).elim (fun e => hc e.symm) (ih f₀ List.mem_cons_self)
      · exact ih f (List.mem_cons_of_mem _ hf)

theorem join_cons_char (sep c : Char) (a : Str) (rest : List Str) :
    join sep ((c :: a) :: rest) = c :: join sep (a :: rest) := by
  cases rest <;> simp [join]

theorem join_cons_cons (sep : Char) (f g : Str) (fs : List Str) :
    join sep (f :: g :: fs) = f ++ sep :: join sep (g :: fs) := rfl

theorem join_singleton (sep : Char) (f : Str) : join sep [f] = f := rfl

theorem join_splitOn (sep : Char) (s : Str) : join sep (splitOn sep s) = s := by
  induction s with
  | nil => rfl
  | cons c cs ih =>
    obtain ⟨f₀, fs, hs⟩ := splitOn_eq_cons sep cs
    by_cases hc : c = sep
    · rw [hc, splitOn_cons_sep, hs, join_cons_cons, ← hs, ih]; rfl
    · rw [splitOn_cons_ne hc hs, join_cons_char, ← hs, ih]

theorem splitOn_of_not_mem (sep : Char) (a : Str) (h : sep ∉ a) : splitOn sep a = [a] := by
  induction a with
  | nil => rfl
  | cons c cs ih =>
    exact splitOn_cons_ne (fun e => h (e ▸ List.mem_cons_self)) (ih (fun e => h (List.mem_cons_of_mem _ e)))

theorem splitOn_append_sep (sep : Char) (a rest : Str) (h : sep ∉ a) :
    splitOn sep (a ++ sep :: rest) = a :: splitOn sep rest := by
  induction a with
  | nil => exact splitOn_cons_sep sep rest
  | cons c cs ih =>
    exact splitOn_cons_ne (fun e => h (e ▸ List.mem_cons_self)) (ih (fun e => h (List.mem_cons_of_mem _ e)))

theorem splitOn_join (sep : Char) (fs : List Str) (hne : fs ≠ []) (h : ∀ f ∈ fs, sep ∉ f) :
    splitOn sep (join sep fs) = fs := by
  induction fs with
  | nil => exact absurd rfl hne
  | cons f rest ih =>
    cases rest with
    | nil => exact splitOn_of_not_mem sep f (h f (by simp))
    | cons g gs =>
      rw [join_cons_cons, splitOn_append_sep sep f _ (h f (by simp)),
        ih (by simp) (fun x hx => h x (List.mem_cons_of_mem _ hx))]

theorem splitOn_eq_pair_iff (sep : Char) (f m v : Str) :
    splitOn sep f = [m, v] ↔ f = m ++ sep :: v ∧ sep ∉ m ∧ sep ∉ v := by
  constructor
  · intro h
    have hj := join_splitOn sep f
    have hn := not_mem_of_mem_splitOn sep f
    rw [h] at hj hn
    refine ⟨hj.symm, hn m (by simp), hn v (by simp)⟩
  · rintro ⟨rfl, hm, hv⟩
    rw [splitOn_append_sep sep m v hm, splitOn_of_not_mem sep v hv]

theorem join_cons (sep : Char) (f : Str) (fs : List Str) :
    join sep (f :: fs) = f ++ (fs.map (sep :: ·)).flatten := by
  induction fs generalizing f with
  | nil => simp [join]
  | cons g gs ih =>
    rw [join_cons_cons, ih]
    simp

theorem join_append (sep : Char) (l₁ l₂ : List Str) (h₁ : l₁ ≠ []) (h₂ : l₂ ≠ []) :
    join sep (l₁ ++ l₂) = join sep l₁ ++ sep :: join sep l₂ := by
  obtain ⟨f, r, rfl⟩ := List.exists_cons_of_ne_nil h₁
  obtain ⟨g, s, rfl⟩ := List.exists_cons_of_ne_nil h₂
  simp [join_cons]

theorem join_ne_nil (sep : Char) (fs : List Str) (h : ∃ f ∈ fs, f ≠ []) : join sep fs ≠ [] := by
  induction fs with
  | nil => obtain ⟨f, hf, _⟩ := h; simp at hf
  | cons f rest ih =>
    cases rest with
    | nil =>
      obtain ⟨f', hf', hne⟩ := h
      simp at hf'; subst hf'; exact hne
    | cons g gs => rw [join_cons_cons]; simp

theorem endsWithChar_append (c : Char) (p s : Str) (hs : s ≠ []) :
    endsWithChar c (p ++ s) = endsWithChar c s := by
  unfold endsWithChar
  rw [List.getLast?_append]
  cases h : s.getLast? with
  | none => simp at h; exact absurd h hs
  | some d => simp

theorem mem_of_endsWithChar {c : Char} {s : Str} (h : endsWithChar c s = true) : c ∈ s := by
  unfold endsWithChar at h
  split at h
  · rename_i d hd
    obtain rfl : d = c := by simpa using h
    exact List.mem_of_getLast? hd
  · cases h

theorem endsWithChar_join (sep : Char) (fs : List Str) (h : ∀ f ∈ fs, sep ∉ f)
    (he : ∀ f ∈ fs, f ≠ []) : endsWithChar sep (join sep fs) = false := by
  induction fs with
  | nil => rfl
  | cons f rest ih =>
    cases rest with
    | nil => exact Bool.eq_false_iff.2 fun hb => h f (by simp) (mem_of_endsWithChar hb)
    | cons g gs =>
      have hj : join sep (g :: gs) ≠ [] := join_ne_nil sep _ ⟨g, by simp, he g (by simp)⟩
      rw [join_cons_cons, show f ++ sep :: join sep (g :: gs) = (f ++ [sep]) ++ join sep (g :: gs) by simp,
        endsWithChar_append _ _ _ hj]
      exact ih (fun x hx => h x (List.mem_cons_of_mem _ hx)) (fun x hx => he x (List.mem_cons_of_mem _ hx))

theorem startsWith_iff (p s : Str) : startsWith p s = true ↔ ∃ r, s = p ++ r := by
  unfold startsWith
  rw [List.isPrefixOf_iff_prefix]
  constructor
  · rintro ⟨r, rfl⟩; exact ⟨r, rfl⟩
  · rintro ⟨r, rfl⟩; exact ⟨r, rfl⟩

theorem lookup_insert {α β : Type} [DecidableEq α] (k a : α) (v : β) (l : List (α × β)) :
    lookup k (insert a v l) = if k = a then some v else lookup k l := by
  induction l with
  | nil => simp [insert, lookup]
  | cons p r ih =>
    obtain ⟨a', b'⟩ := p
    by_cases h : a = a'
    · subst h
      simp only [insert, if_true, lookup]
      by_cases hk : k = a <;> simp [hk]
    · simp only [insert, if_neg h, lookup, ih]
      by_cases hk : k = a
      · subst hk; simp [h]
      · simp [hk]

section Assoc
variable {α α' β β' γ : Type} [DecidableEq α] [DecidableEq α']

theorem lookup_mem {l : List (α × β)} {k : α} {v : β} (h : lookup k l = some v) : (k, v) ∈ l := by
  induction l with
  | nil => simp [lookup] at h
  | cons p r ih =>
    obtain ⟨a, b⟩ := p
    simp only [lookup] at h
    split at h
    · next hk => cases h; subst hk; exact List.mem_cons_self
    · exact List.mem_cons_of_mem _ (ih h)

omit [DecidableEq α] in
theorem mem_keys_of_mem {l : List (α × β)} {k : α} {v : β} (h : (k, v) ∈ l) :
    k ∈ keys l := List.mem_map.2 ⟨(k, v), h, rfl⟩

theorem mem_keys_of_lookup {l : List (α × β)} {k : α} {v : β} (h : lookup k l = some v) :
    k ∈ keys l := mem_keys_of_mem (lookup_mem h)

theorem lookup_eq_some_of_mem (l : List (α × β)) (hn : (keys l).Nodup)
    (k : α) (v : β) (h : (k, v) ∈ l) : lookup k l = some v := by
  induction l with
  | nil => simp at h
  | cons p r ih =>
    obtain ⟨a, b⟩ := p
    simp only [keys, List.map_cons, List.nodup_cons] at hn
    rcases List.mem_cons.1 h with heq | hmem
    · cases heq; simp [lookup]
    · have hk : k ≠ a := by
        intro e; subst e
        exact hn.1 (mem_keys_of_mem hmem)
      simp only [lookup, if_neg hk]
      exact ih hn.2 hmem

theorem lookup_eq_some_iff (l : List (α × β)) (hn : (keys l).Nodup)
    (k : α) (v : β) : lookup k l = some v ↔ (k, v) ∈ l :=
  ⟨lookup_mem, lookup_eq_some_of_mem l hn k v⟩

theorem lookup_perm (l₁ l₂ : List (α × β)) (hp : l₁.Perm l₂)
    (hn : (keys l₁).Nodup) (k : α) : lookup k l₁ = lookup k l₂ := by
  have hn₂ : (keys l₂).Nodup := (List.Perm.map (fun p : α × β => p.1) hp).nodup_iff.1 hn
  apply Option.ext
  intro v
  rw [lookup_eq_some_iff l₁ hn, lookup_eq_some_iff l₂ hn₂]
  exact hp.mem_iff

theorem lookup_isSome_iff_mem_keys (l : List (α × β)) (k : α) :
    (lookup k l).isSome = true ↔ k ∈ keys l := by
  induction l with
  | nil => simp [lookup, keys]
  | cons p r ih =>
    obtain ⟨a, b⟩ := p
    by_cases hk : k = a
    · subst hk; simp [lookup, keys]
    · have : k ∈ keys ((a, b) :: r) ↔ k ∈ keys r := by simp [keys, hk]
      rw [this, ← ih]; simp [lookup, hk]

theorem hasKey_iff_mem_keys (l : List (α × β)) (k : α) :
    hasKey k l = true ↔ k ∈ keys l := lookup_isSome_iff_mem_keys l k

theorem lookup_eq_none_iff (l : List (α × β)) (k : α) :
    lookup k l = none ↔ k ∉ keys l := by
  rw [← lookup_isSome_iff_mem_keys]
  cases lookup k l <;> simp

theorem lookup_of_mem_keys {l : List (α × β)} {k : α} (h : k ∈ keys l) : ∃ v, lookup k l = some v :=
  Option.isSome_iff_exists.1 ((lookup_isSome_iff_mem_keys l k).2 h)

omit [DecidableEq α] in
theorem keys_append (l₁ l₂ : List (α × β)) : keys (l₁ ++ l₂) = keys l₁ ++ keys l₂ := by
  simp [keys]

omit [DecidableEq α] in
theorem nodup_keys_append_singleton (l : List (α × β)) (p : α × β) :
    (keys (l ++ [p])).Nodup ↔ (keys l).Nodup ∧ p.1 ∉ keys l := by
  rw [keys_append, List.nodup_append]
  constructor
  · exact fun ⟨h1, _, h3⟩ => ⟨h1, fun hm => h3 _ hm _ List.mem_cons_self rfl⟩
  · refine fun ⟨h1, h2⟩ => ⟨h1, List.nodup_cons.2 ⟨List.not_mem_nil, List.nodup_nil⟩, fun a ha b hb e => h2 ?_⟩
    have hb' : b = p.1 := List.mem_singleton.1 hb
    exact hb' ▸ e ▸ ha

theorem lookup_append (k : α) (l₁ l₂ : List (α × β)) :
    lookup k (l₁ ++ l₂) = match lookup k l₁ with | some v => some v | none => lookup k l₂ := by
  induction l₁ with
  | nil => rfl
  | cons p r ih =>
    obtain ⟨a, b⟩ := p
    simp only [List.cons_append, lookup]
    split
    · rfl
    · exact ih

theorem insert_of_not_mem (k : α) (v : β) (l : List (α × β)) (h : k ∉ keys l) :
    insert k v l = l ++ [(k, v)] := by
  induction l with
  | nil => rfl
  | cons p r ih =>
    obtain ⟨a, b⟩ := p
    simp only [keys, List.map_cons, List.mem_cons, not_or] at h
    simp only [insert, if_neg h.1, List.cons_append, ih h.2]

theorem insert_of_hasKey_false (k : α) (v : β) (l : List (α × β)) (h : hasKey k l = false) :
    insert k v l = l ++ [(k, v)] :=
  insert_of_not_mem k v l fun hm => by rw [(hasKey_iff_mem_keys l k).2 hm] at h; cases h

theorem lookup_map_iff (f : α → α') (g : β → β')
    (k : α) (k' : α') (l : List (α × β)) (h : ∀ p ∈ l, (k' = f p.1 ↔ k = p.1)) :
    lookup k' (l.map fun p => (f p.1, g p.2)) = (lookup k l).map g := by
  induction l with
  | nil => rfl
  | cons p r ih =>
    obtain ⟨a, b⟩ := p
    have h1 := h (a, b) List.mem_cons_self
    simp only [List.map_cons, lookup]
    by_cases hk : k = a
    · rw [if_pos hk, if_pos (h1.mpr hk)]; rfl
    · rw [if_neg hk, if_neg (fun h' => hk (h1.mp h'))]
      exact ih (fun p hp => h p (List.mem_cons_of_mem _ hp))

theorem lookup_map_val (g : β → γ) (k : α) (l : List (α × β)) :
    lookup k (l.map fun p => (p.1, g p.2)) = (lookup k l).map g :=
  lookup_map_iff id g k k l (fun _ _ => Iff.rfl)

/-- the `legal` table of a version: rows reduced to their keys -/
theorem lookup_map_keys (k : α) (l : List (α × List (γ × β))) :
    lookup k (l.map (fun (k, row) => (k, keys row))) = (lookup k l).map keys :=
  lookup_map_val keys k l

theorem lookup_tabulate (f : α → β) (k : α) (l : List α) :
    lookup k (l.map fun a => (a, f a)) = if k ∈ l then some (f k) else none := by
  induction l with
  | nil => rfl
  | cons a r ih =>
    by_cases hk : k = a
    · subst hk; simp [lookup]
    · simp [lookup, hk, ih]

omit [DecidableEq α] in
theorem keys_tabulate (f : α → β) (l : List α) : keys (l.map fun a => (a, f a)) = l :=
  (List.map_map ..).trans (List.map_id _)

theorem all_lookup {p : α × β → Bool} {l : List (α × β)} (h : l.all p = true) {k : α} {v : β}
    (hl : lookup k l = some v) : p (k, v) = true :=
  List.all_eq_true.mp h _ (lookup_mem hl)

end Assoc

theorem sep_cons_join (sep : Char) (fs : List Str) (hne : fs ≠ []) :
    sep :: join sep fs = (fs.map (sep :: ·)).flatten := by
  obtain ⟨f, fs, rfl⟩ := List.exists_cons_of_ne_nil hne
  simp [join_cons]

/-- membership of `a :: x` in a literal list of names is decided on the heads -/
theorem ne_cons_of_head? {α : Type} {a : α} {L : List (List α)} (h : ∀ k ∈ L, k.head? ≠ some a) :
    ∀ k ∈ L, ∀ x, k ≠ a :: x :=
  fun k hk _ e => h k hk (e ▸ rfl)

theorem mapM_pure_of_mem {m : Type → Type} [Monad m] [LawfulMonad m] {α β : Type} {f : α → m β} {g : α → β}
    {l : List α} (h : ∀ x ∈ l, f x = pure (g x)) : l.mapM f = pure (l.map g) := by
  induction l with
  | nil => rfl
  | cons x r ih =>
    rw [List.mapM_cons, h x List.mem_cons_self, ih fun y hy => h y (List.mem_cons_of_mem _ hy),
      pure_bind, pure_bind, List.map_cons]

theorem sublist_flatMap {α β : Type} {l₁ l₂ : List α} (h : l₁.Sublist l₂) (f : α → List β) :
    (l₁.flatMap f).Sublist (l₂.flatMap f) := by
  induction h with
  | slnil => exact .slnil
  | cons a _ ih => exact ih.trans (List.sublist_append_right _ _)
  | cons_cons a _ ih => exact (List.Sublist.refl _).append ih

/-- in a duplicate-free `flatMap` every element has one owner -/
theorem mem_flatMap_filter {α β : Type} {p : α → Bool} {f : α → List β} {l : List α}
    (hn : (l.flatMap f).Nodup) {x : β} (hx : x ∈ l.flatMap f) :
    x ∈ (l.filter p).flatMap f ↔ ∀ a ∈ l, p a = false → x ∉ f a := by
  have hp := List.flatMap_append ▸ (List.filter_append_perm p l).flatMap_right f
  obtain ⟨-, -, hd⟩ := List.nodup_append.1 (hp.nodup_iff.2 hn)
  have hoff : x ∉ (l.filter (fun a => !p a)).flatMap f ↔ ∀ a ∈ l, p a = false → x ∉ f a := by
    simp [List.mem_flatMap, List.mem_filter]
  rw [← hoff]
  exact ⟨fun h h' => hd x h x h' rfl, fun h => (List.mem_append.1 (hp.mem_iff.2 hx)).resolve_right h⟩

end Cvss
