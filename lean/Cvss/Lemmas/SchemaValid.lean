/-
  For C10: schema validity of an `as_json` run (`runJson_valid`) reduced to a finite check of the tables
  (`fieldsOk`) and the few items each block assigns besides its metrics.
-/
import Cvss.Spec.Schema
import Cvss.Lemmas.Json
namespace Cvss.Lemmas.SchemaValid
open Cvss Cvss.Model Cvss.Spec.Schema

def propOk (sch : Schema) (k : Str) (v : JVal) : Bool :=
  match lookup k sch.props with
  | none => true
  | some c => okConstraint c v

/-- `names`, `dom`, `jk` come from `METRICS_VALUE_NAMES`, `METRICS_VALUES` and the key table: separate Python
    dicts, hence look-ups only - neither the order of their entries nor that of the tokens in a row has to agree -/
def fieldsOk (sch : Schema) (jk : List (Str × Str)) (names : List (Str × List (Str × Str)))
    (usf : Str → Str) (dom : List (Str × List Str)) : Bool :=
  dom.all fun (m, ts) => match lookup m jk, lookup m names with
    | some k, some row => match lookup k sch.props with
      | none => false       -- the schema has no such property: the field would not be validated at all
      | some c => ts.all fun t => match lookup t row with
        | some d => okConstraint c (.str (usf d))
        | none => false
    | _, _ => false

theorem field_ok {sch : Schema} {jk : List (Str × Str)} {names : List (Str × List (Str × Str))}
    {usf : Str → Str} {dom : List (Str × List Str)} (h : fieldsOk sch jk names usf dom = true)
    {m t : Str} (ht : t ∈ (lookup m dom).getD []) :
    ∃ k row d, lookup m jk = some k ∧ lookup m names = some row ∧ lookup t row = some d ∧
      propOk sch k (.str (usf d)) = true := by
  cases hl : lookup m dom with
  | none => simp [hl] at ht
  | some ts =>
    rw [hl] at ht
    have h1 := all_lookup h hl
    simp only at h1
    split at h1
    next k row hk hrow =>
      split at h1
      next => cases h1
      next c hc =>
        have h2 := List.all_eq_true.1 h1 t ht
        split at h2
        next d hd => exact ⟨k, row, d, hk, hrow, hd, by rw [propOk, hc]; exact h2⟩
        next => cases h2
    next => cases h1

/-- `hb`: only the 4.0 schema has bands; of it only the negation is proved -/
theorem failures_eq_nil (sch : Schema) (j : JObj)
    (hreq : ∀ k ∈ sch.required, k ∈ keys j)
    (hn : (keys sch.props).Nodup)
    (hprops : ∀ k v, lookup k j = some v → propOk sch k v = true)
    (hb : sch.bands = []) : failures sch j = [] := by
  unfold failures
  rw [hb]
  simp only [List.filterMap_nil, List.append_nil, List.append_eq_nil_iff, List.map_eq_nil_iff,
    List.filter_eq_nil_iff, List.filterMap_eq_nil_iff]
  refine ⟨?_, ?_⟩
  · intro k hk
    simp [(hasKey_iff_mem_keys j k).2 (hreq k hk)]
  · rintro ⟨k, c⟩ hkc
    simp only
    cases hl : lookup k j with
    | none => rfl
    | some v =>
      have := hprops k v hl
      unfold propOk at this
      rw [lookup_eq_some_of_mem _ hn k c hkc] at this
      simp [this]

theorem runJson_valid (sch : Schema) (jk : List (Str × Str)) (descr : Str → Option Str)
    (usf : Str → Str) (bs : List Block) (d0 : JObj) (sort : Bool)
    (hfresh : KeysFresh jk bs d0)
    (hdef : ∀ b ∈ bs, ∀ m ∈ b.2.1, ∃ k d, lookup m jk = some k ∧ descr m = some d ∧
      propOk sch k (.str (usf d)) = true)
    (h0 : ∀ kv ∈ d0, propOk sch kv.1 kv.2 = true)
    (hextra : ∀ b ∈ bs, ∀ kv ∈ b.2.2, propOk sch kv.1 kv.2 = true)
    (hreq : ∀ k ∈ sch.required, k ∈ keys d0 ∨ ∃ g ∈ onGroups bs, k ∈ keys g.2)
    (hn : (keys sch.props).Nodup) (hb : sch.bands = []) :
    ∃ j, runJson jk descr usf bs d0 sort = some j ∧ failures sch j = [] := by
  have hon : ∀ g ∈ onGroups bs, ∃ b ∈ bs, b.2 = g := fun g hg => by
    obtain ⟨b, hb, e⟩ := List.mem_map.1 hg
    exact ⟨b, (List.mem_filter.1 hb).1, e⟩
  have hkey : ∀ g ∈ onGroups bs, NoKeyError jk descr g := fun g hg m hm => by
    obtain ⟨b, hb, rfl⟩ := hon g hg
    obtain ⟨k, dd, h1, h2, -⟩ := hdef b hb m hm
    exact ⟨k, dd, h1, h2⟩
  have hj := (runJson_eq_some jk descr usf sort bs d0 _).2 ⟨hkey, rfl⟩
  obtain ⟨-, hl, hk, -⟩ := runJson_spec hfresh hj
  refine ⟨_, hj, failures_eq_nil sch _ ?_ hn ?_ hb⟩
  · intro k hk'
    rw [hk, List.mem_append]
    rcases hreq k hk' with h | ⟨g, hg, hkb⟩
    · exact Or.inl h
    · exact Or.inr (List.mem_flatMap.2 ⟨g, hg, List.mem_append_right _ hkb⟩)
  · intro k v hlk
    rcases List.mem_append.1 ((hl k v).1 hlk) with h | h
    · exact h0 (k, v) h
    · obtain ⟨g, hg, hkv⟩ := List.mem_flatMap.1 h
      obtain ⟨b, hb, rfl⟩ := hon g hg
      rcases List.mem_append.1 hkv with h | h
      · obtain ⟨m, hm, dd, a1, a2, rfl⟩ := mem_entries.1 h
        obtain ⟨k', d', b1, b2, b3⟩ := hdef b hb m hm
        rw [a1] at b1
        rw [a2] at b2
        cases b1
        cases b2
        exact b3
      · exact hextra b hb (k, v) h

end Cvss.Lemmas.SchemaValid
