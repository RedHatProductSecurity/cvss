/-
  The specification's look-up table and its interpolation in whole numbers, for C02 and C14 (v4.0).  For kernel
  evaluation the frozen table is read from an 18 × 18 grid of tenths (`tbl`), which `rows_eq` checks against
  `Spec.V4.tableTenths`: nothing here is trusted.  The interpolated value is `rawN / 504000`, `rawN : Int` affine in the
  four severity distances with weights `K : Nat`: C02 reads the denominator bound for EPSILON off it, C14 its checks.
-/
import Mathlib.Tactic.NormNum
import Mathlib.Tactic.Ring
import Mathlib.Tactic.FieldSimp
import Mathlib.Data.Nat.Cast.Field
import Mathlib.Data.List.Nodup
import Mathlib.Data.List.Perm.Subperm
import Cvss.Lemmas.Str
import Cvss.Lemmas.Num4
import Cvss.Lemmas.Num
import Cvss.Model.V4
import Cvss.Spec.V4
namespace Cvss.Lemmas.V4Table
open Cvss Cvss.Lemmas.Num4

abbrev Key := Nat × Nat × Nat × Nat × Nat × Nat

/-- row `(EQ1·2 + EQ2)·3 + EQ3`, column `(EQ4·3 + EQ5)·2 + EQ6`, in tenths; 0 = no such macrovector -/
def tbl : List (List Nat) := [
    [100, 99, 98, 95, 95, 92, 100, 96, 93, 87, 91, 81, 93, 90, 89, 80, 81, 68],
    [98, 95, 95, 92, 90, 84, 93, 92, 89, 81, 81, 65, 88, 80, 78, 70, 69, 48],
    [0, 92, 0, 82, 0, 72, 0, 79, 0, 69, 0, 50, 0, 69, 0, 55, 0, 27],
    [99, 97, 95, 92, 92, 85, 95, 91, 90, 83, 84, 71, 92, 81, 82, 71, 72, 53],
    [95, 93, 92, 85, 85, 73, 92, 82, 80, 72, 70, 59, 84, 70, 71, 52, 50, 30],
    [0, 86, 0, 75, 0, 52, 0, 71, 0, 52, 0, 29, 0, 63, 0, 29, 0, 17],
    [98, 95, 94, 87, 91, 81, 94, 89, 86, 74, 77, 64, 87, 75, 74, 63, 63, 49],
    [94, 89, 88, 77, 76, 67, 86, 76, 74, 58, 59, 50, 72, 57, 57, 52, 52, 25],
    [0, 83, 0, 70, 0, 54, 0, 65, 0, 58, 0, 26, 0, 53, 0, 21, 0, 13],
    [95, 90, 88, 76, 76, 70, 90, 77, 75, 62, 61, 53, 77, 66, 68, 59, 52, 30],
    [89, 78, 76, 67, 62, 58, 74, 59, 57, 57, 47, 23, 61, 52, 57, 29, 24, 16],
    [0, 71, 0, 59, 0, 30, 0, 58, 0, 26, 0, 15, 0, 23, 0, 13, 0, 6],
    [93, 87, 86, 72, 75, 58, 86, 74, 74, 61, 56, 34, 70, 54, 52, 40, 40, 22],
    [85, 75, 74, 55, 62, 51, 72, 57, 55, 41, 46, 19, 53, 36, 34, 19, 19, 8],
    [0, 64, 0, 51, 0, 20, 0, 47, 0, 21, 0, 11, 0, 24, 0, 9, 0, 4],
    [88, 75, 73, 53, 60, 50, 73, 55, 59, 40, 41, 20, 54, 43, 45, 22, 20, 11],
    [75, 55, 58, 45, 40, 21, 61, 51, 48, 18, 20, 9, 46, 18, 17, 7, 8, 2],
    [0, 53, 0, 24, 0, 14, 0, 24, 0, 12, 0, 5, 0, 10, 0, 3, 0, 1]
  ]

/-- the grid as one number in base 128: the kernel computes it once and reads an entry by one division; walking the
    lists costs several times as much per look-up -/
def enc : Nat := tbl.flatten.foldr (fun t acc => t + 128 * acc) 0

/-- `Nat.blt`, `bif`: evaluated without a detour through `Decidable` -/
def tv (e1 e2 e3 e4 e5 e6 : Nat) : Nat :=
  bif Nat.blt e1 3 && Nat.blt e2 2 && Nat.blt e3 3 && Nat.blt e4 3 && Nat.blt e5 3 && Nat.blt e6 2 then
    enc / 128 ^ (((((e1 * 2 + e2) * 3 + e3) * 3 + e4) * 3 + e5) * 2 + e6) % 128
  else 0

theorem tv_ne_zero {e1 e2 e3 e4 e5 e6 : Nat} (h : tv e1 e2 e3 e4 e5 e6 ≠ 0) :
    e1 < 3 ∧ e2 < 2 ∧ e3 < 3 ∧ e4 < 3 ∧ e5 < 3 ∧ e6 < 2 := by
  unfold tv at h
  cases hc : (Nat.blt e1 3 && Nat.blt e2 2 && Nat.blt e3 3 && Nat.blt e4 3 && Nat.blt e5 3 && Nat.blt e6 2) with
  | false =>
    rw [hc] at h
    exact absurd rfl h
  | true => simpa only [Bool.and_eq_true, Nat.blt_eq, and_assoc] using hc

def tvK (k : Key) : Nat := tv k.1 k.2.1 k.2.2.1 k.2.2.2.1 k.2.2.2.2.1 k.2.2.2.2.2

/-- in the order of the specification's table -/
def allKeys : List Key :=
  (List.range 3).flatMap fun e1 => (List.range 2).flatMap fun e2 => (List.range 3).flatMap fun e3 =>
  (List.range 3).flatMap fun e4 => (List.range 3).flatMap fun e5 => (List.range 2).map fun e6 =>
    (e1, e2, e3, e4, e5, e6)

theorem rows_eq : (allKeys.filter fun k => tvK k != 0).map (fun k => (k, tvK k)) = Spec.V4.tableTenths :=
  eq_of_beq (by decide +kernel)

theorem lookup_tableTenths (e1 e2 e3 e4 e5 e6 : Nat) :
    lookup (e1, e2, e3, e4, e5, e6) Spec.V4.tableTenths =
      if tv e1 e2 e3 e4 e5 e6 = 0 then none else some (tv e1 e2 e3 e4 e5 e6) := by
  rw [← rows_eq, lookup_tabulate]
  simp only [List.mem_filter]
  by_cases h : tv e1 e2 e3 e4 e5 e6 = 0
  · simp [tvK, h]
  · have hr : (e1, e2, e3, e4, e5, e6) ∈ allKeys := by
      obtain ⟨h1, h2, h3, h4, h5, h6⟩ := tv_ne_zero h
      simp only [allKeys, List.mem_flatMap, List.mem_map, List.mem_range]
      exact ⟨e1, h1, e2, h2, e3, h3, e4, h4, e5, h5, e6, h6, rfl⟩
    simp [tvK, h, hr]

def ofTenths (t : Nat) : Option ℚ := if t = 0 then none else some ((t : ℚ) / 10)

theorem ofTenths_le {L V : Nat} (h : L ≤ V) {x : ℚ} (hx : ofTenths L = some x) : x ≤ (V : ℚ) / 10 := by
  unfold ofTenths at hx
  split at hx
  · cases hx
  · cases hx
    exact div_le_div_of_nonneg_right (by exact_mod_cast h) (by norm_num)

theorem ofTenths_max (l r : ℕ) : ofTenths (max l r) =
    match ofTenths l, ofTenths r with
    | some x, some y => some (max x y)
    | some x, none => some x
    | none, some y => some y
    | none, none => none := by
  have hm : max ((l : ℚ) / 10) ((r : ℚ) / 10) = ((max l r : ℕ) : ℚ) / 10 := by
    rw [max_div_div_right (by norm_num), Nat.cast_max]
  unfold ofTenths
  by_cases hl : l = 0 <;> by_cases hr : r = 0 <;> simp [hl, hr, hm]

abbrev MV := Spec.V4.MacroVector

/-- the score of macrovector `m` in tenths, 0 without a row (`tv` on six numbers, `tvK` on a `Key`) -/
def val (m : MV) : Nat := tv m.eq1 m.eq2 m.eq3 m.eq4 m.eq5 m.eq6

theorem score?_val (m : MV) : Spec.V4.score? m = ofTenths (val m) := by
  unfold Spec.V4.score? ofTenths val
  rw [lookup_tableTenths]
  split <;> rfl

def keyDigits (k : Str) : List Nat := k.map (fun c => c.toNat - 48)
def toList6 (k : Key) : List Nat := [k.1, k.2.1, k.2.2.1, k.2.2.2.1, k.2.2.2.2.1, k.2.2.2.2.2]

/-! The generated table lists its rows in the order of the Python dict literal, which no look-up can observe: the pin
  says distinct keys and a PERMUTATION of the specification's rows.  It comes from three Boolean checks whose cost
  does not depend on the order either (`pinned_of_checks`). -/

def nodupB {α : Type} [DecidableEq α] : List α → Bool
  | [] => true
  | a :: l => l.all (fun b => !decide (a = b)) && nodupB l

theorem nodup_of_nodupB {α : Type} [DecidableEq α] : ∀ {l : List α}, nodupB l = true → l.Nodup
  | [], _ => List.nodup_nil
  | a :: l, h => by
    simp only [nodupB, Bool.and_eq_true, List.all_eq_true, Bool.not_eq_true',
      decide_eq_false_iff_not] at h
    exact List.nodup_cons.2 ⟨fun hm => h.1 a hm rfl, nodup_of_nodupB h.2⟩

/-- duplicate check by buckets `c x < n`: on a closed list of unevaluated terms the plain check evaluates every
    element once per comparison -/
def nodupBy (c : Nat → Nat) (n : Nat) (l : List Nat) : Bool :=
  l.all (fun x => Nat.blt (c x) n) && (List.range n).all fun i => nodupB (l.filter fun x => c x == i)

theorem nodup_of_nodupBy {c : Nat → Nat} {n : Nat} {l : List Nat} (h : nodupBy c n l = true) : l.Nodup := by
  simp only [nodupBy, Bool.and_eq_true, List.all_eq_true, Nat.blt_eq, List.all_eq_true, List.mem_range] at h
  rw [List.nodup_iff_count_le_one]
  intro a
  by_cases ha : a ∈ l
  · have hb := List.nodup_iff_count_le_one.mp (nodup_of_nodupB (h.2 (c a) (h.1 a ha))) a
    rwa [List.count_filter (by simp)] at hb
  · rw [List.count_eq_zero_of_not_mem ha]
    omega

abbrev genRows (T : List (Str × Rat)) : List (List Nat × Rat) :=
  T.map (fun p => (keyDigits p.1, id p.2))
abbrev specRows : List (List Nat × Rat) :=
  Spec.V4.tableTenths.map (fun p => (toList6 p.1, (fun t : Nat => (t : Rat) / 10) p.2))

/-- a digit list as one number, so that the duplicate check compares numbers (no injectivity is needed:
    distinct images imply distinct keys for any function) -/
def encDigits (d : List Nat) : Nat := d.foldl (fun n x => 10 * n + x) 0

/-- the row of `tbl` of an encoded key, from its first three digits -/
def clsEnc (x : Nat) : Nat := (x / 100000 * 2 + x / 10000 % 10) * 3 + x / 1000 % 10

def toKey? : List Nat → Option Key
  | [a, b, c, d, e, f] => some (a, b, c, d, e, f)
  | _ => none

theorem toKey?_some {d : List Nat} {k : Key} (h : toKey? d = some k) : d = toList6 k := by
  unfold toKey? at h
  split at h
  · cases h; rfl
  · cases h

/-- last conjunct: the key is its six digits written out (`keyDigits` alone would also accept other characters) -/
def rowOK (p : Str × Rat) : Bool :=
  match toKey? (keyDigits p.1) with
  | some k => tvK k != 0 && decide (p.2 = (tvK k : Rat) / 10) && Model.V4.mvKey (keyDigits p.1) == p.1
  | none => false

theorem rowOK_key {p : Str × Rat} (h : rowOK p = true) : Model.V4.mvKey (keyDigits p.1) = p.1 := by
  unfold rowOK at h
  split at h
  · simp only [Bool.and_eq_true, beq_iff_eq] at h
    exact h.2
  · cases h

theorem pinned_of_checks (T : List (Str × Rat))
    (h1 : nodupBy clsEnc 18 (T.map fun p => encDigits (keyDigits p.1)) = true)
    (h2 : T.all rowOK = true) (h3 : Spec.V4.tableTenths.length ≤ T.length) :
    (keys (genRows T)).Nodup ∧ (genRows T).Perm specRows := by
  have hk : (keys (genRows T)).Nodup := by
    have h := nodup_of_nodupBy h1
    have e : T.map (fun p => encDigits (keyDigits p.1)) = (keys (genRows T)).map encDigits := by
      simp [keys, genRows, List.map_map, Function.comp_def]
    rw [e] at h
    exact List.Nodup.of_map _ h
  have hk' : ((genRows T).map (fun q => q.1)).Nodup := hk
  refine ⟨hk, (List.subperm_of_subset (List.Nodup.of_map _ hk') ?_).perm_of_length_le
    (by simpa [genRows, specRows] using h3)⟩
  intro q hq
  obtain ⟨p, hp, rfl⟩ := List.mem_map.1 hq
  have hr := List.all_eq_true.1 h2 p hp
  unfold rowOK at hr
  split at hr
  · rename_i k hk'
    obtain ⟨a, b, c, d, e, f⟩ := k
    simp only [Bool.and_eq_true, bne_iff_ne, decide_eq_true_eq] at hr
    have hm : ((a, b, c, d, e, f), tvK (a, b, c, d, e, f)) ∈ Spec.V4.tableTenths :=
      lookup_mem (by rw [lookup_tableTenths, if_neg (show tv a b c d e f ≠ 0 from hr.1.1)]; rfl)
    exact List.mem_map.2 ⟨_, hm, by simp [toKey?_some hk', hr.1.2]⟩
  · cases hr

theorem rows_ok : Gen.V4.lookupTable.all rowOK = true := by decide +kernel

/-- the pin of `CVSS_LOOKUP_GLOBAL` (`C02.lookup_pinned`).  `id p.2` and the applied lambda: both sides have the
    shape `l.map fun p => (f p.1, g p.2)` of `lookup_map_iff`. -/
theorem table_pinned :
    (keys (Gen.V4.lookupTable.map (fun p => (keyDigits p.1, id p.2)))).Nodup ∧
    (Gen.V4.lookupTable.map (fun p => (keyDigits p.1, id p.2))).Perm
      (Spec.V4.tableTenths.map (fun p => (toList6 p.1, (fun t : Nat => (t : Rat) / 10) p.2))) :=
  pinned_of_checks Gen.V4.lookupTable (by decide +kernel) rows_ok (by decide +kernel)

theorem keyDigits_natToStr : ∀ e < 10, keyDigits (natToStr e) = [e] := by decide

theorem keyDigits_mvKey (e1 e2 e3 e4 e5 e6 : Nat) (h1 : e1 < 10) (h2 : e2 < 10) (h3 : e3 < 10)
    (h4 : e4 < 10) (h5 : e5 < 10) (h6 : e6 < 10) :
    keyDigits (Model.V4.mvKey [e1, e2, e3, e4, e5, e6]) = [e1, e2, e3, e4, e5, e6] := by
  have hk : ∀ a b, keyDigits (a ++ b) = keyDigits a ++ keyDigits b := fun a b => List.map_append
  simp only [Model.V4.mvKey, List.flatMap_cons, List.flatMap_nil, hk,
    keyDigits_natToStr _ h1, keyDigits_natToStr _ h2, keyDigits_natToStr _ h3,
    keyDigits_natToStr _ h4, keyDigits_natToStr _ h5, keyDigits_natToStr _ h6]
  rfl

theorem lookupScore_eq {e1 e2 e3 e4 e5 e6 : Nat}
    (h : e1 < 10 ∧ e2 < 10 ∧ e3 < 10 ∧ e4 < 10 ∧ e5 < 10 ∧ e6 < 10) :
    Model.V4.lookupScore [e1, e2, e3, e4, e5, e6] = Spec.V4.score? ⟨e1, e2, e3, e4, e5, e6⟩ := by
  obtain ⟨h1, h2, h3, h4, h5, h6⟩ := h
  have hA := lookup_map_iff keyDigits (id : Rat → Rat) (Model.V4.mvKey [e1, e2, e3, e4, e5, e6])
    [e1, e2, e3, e4, e5, e6] Gen.V4.lookupTable (by
      intro p hp
      constructor
      · intro h
        rw [h]
        exact rowOK_key (List.all_eq_true.mp rows_ok p hp)
      · intro h
        rw [← h]
        exact (keyDigits_mvKey e1 e2 e3 e4 e5 e6 h1 h2 h3 h4 h5 h6).symm)
  have hB := lookup_map_iff toList6 (fun t : Nat => (t : Rat) / 10) (e1, e2, e3, e4, e5, e6)
    [e1, e2, e3, e4, e5, e6] Spec.V4.tableTenths (by
      intro p _
      obtain ⟨⟨a, b, c, d, e, f⟩, t⟩ := p
      simp [toList6])
  unfold Model.V4.lookupScore Spec.V4.score?
  rw [lookup_perm _ _ table_pinned.2 table_pinned.1, hB] at hA
  have hA' : lookup (Model.V4.mvKey [e1, e2, e3, e4, e5, e6]) Gen.V4.lookupTable =
      Option.map (fun t : Nat => (t : Rat) / 10) (lookup (e1, e2, e3, e4, e5, e6) Spec.V4.tableTenths) := by
    rw [hA]; cases lookup (Model.V4.mvKey [e1, e2, e3, e4, e5, e6]) Gen.V4.lookupTable <;> rfl
  rw [hA']
  -- trap: in `Spec.V4.score?` the cast is not under the `map`; the `Option Nat` is coerced first, by a `bind`
  show _ = Option.map _ (Option.bind (lookup (e1, e2, e3, e4, e5, e6) Spec.V4.tableTenths) _)
  cases lookup (e1, e2, e3, e4, e5, e6) Spec.V4.tableTenths <;> rfl

def InRange (m : MV) : Prop := m.eq1 < 3 ∧ m.eq2 < 2 ∧ m.eq3 < 3 ∧ m.eq4 < 3 ∧ m.eq5 < 3 ∧ m.eq6 < 2

def allMV (p : MV → Bool) : Bool :=
  (List.range 3).all fun e1 => (List.range 2).all fun e2 => (List.range 3).all fun e3 => (List.range 3).all fun e4 =>
  (List.range 3).all fun e5 => (List.range 2).all fun e6 => p ⟨e1, e2, e3, e4, e5, e6⟩

theorem allMV_iff {p : MV → Bool} : allMV p = true ↔ ∀ m, InRange m → p m = true := by
  simp only [allMV, List.all_eq_true, List.mem_range, InRange]
  exact ⟨fun h m ⟨h1, h2, h3, h4, h5, h6⟩ => h _ h1 _ h2 _ h3 _ h4 _ h5 _ h6,
    fun h e1 h1 e2 h2 e3 h3 e4 h4 e5 h5 e6 h6 => h ⟨e1, e2, e3, e4, e5, e6⟩ ⟨h1, h2, h3, h4, h5, h6⟩⟩

/-- A GROUP: the metrics with one common severity distance; index `j`: 0 EQ1, 1 EQ2, 2 EQ3 with EQ6 (a class is then
    the pair), 3 EQ4, in `low` also 4 EQ5 (no distance).  The last arm of a definition by cases on `j` catches every
    larger index; statements are about `j < 4` (`j < 5`).  `get` / `put` read / replace the class of group `j`. -/
def get (m : MV) : Nat → Nat × Nat
  | 0 => (m.eq1, 0)
  | 1 => (m.eq2, 0)
  | 2 => (m.eq3, m.eq6)
  | _ => (m.eq4, 0)

def put (m : MV) (j : Nat) (c : Nat × Nat) : MV :=
  match j with
  | 0 => { m with eq1 := c.1 }
  | 1 => { m with eq2 := c.1 }
  | 2 => { m with eq3 := c.1, eq6 := c.2 }
  | _ => { m with eq4 := c.1 }

theorem put_get (m : MV) : ∀ j, put m j (get m j) = m
  | 0 => rfl
  | 1 => rfl
  | 2 => rfl
  | _ + 3 => rfl

theorem put_put (m : MV) (x c : Nat × Nat) : ∀ j, put (put m j x) j c = put m j c
  | 0 => rfl
  | 1 => rfl
  | 2 => rfl
  | _ + 3 => rfl

theorem get_put_zero (m : MV) : ∀ j, get (put m j (0, 0)) j = (0, 0)
  | 0 => rfl
  | 1 => rfl
  | 2 => rfl
  | _ + 3 => rfl

theorem inRange_put_zero {m : MV} (h : InRange m) : ∀ j, InRange (put m j (0, 0))
  | 0 => ⟨Nat.zero_lt_succ 2, h.2⟩
  | 1 => ⟨h.1, Nat.zero_lt_succ 1, h.2.2⟩
  | 2 => ⟨h.1, h.2.1, Nat.zero_lt_succ 2, h.2.2.2.1, h.2.2.2.2.1, Nat.zero_lt_succ 1⟩
  | _ + 3 => ⟨h.1, h.2.1, h.2.2.1, Nat.zero_lt_succ 2, h.2.2.2.2⟩

theorem eq_put {m m' : MV} {g : Nat} (hg : g < 4) (h : ∀ j < 4, j ≠ g → get m' j = get m j)
    (h5 : m'.eq5 = m.eq5) : m' = put m g (get m' g) := by
  obtain ⟨a1, a2, a3, a4, a5, a6⟩ := m
  obtain ⟨b1, b2, b3, b4, b5, b6⟩ := m'
  have h0 := h 0 (by omega)
  have h1 := h 1 (by omega)
  have h2 := h 2 (by omega)
  have h3 := h 3 (by omega)
  simp only [get, Prod.mk.injEq, and_true] at h0 h1 h2 h3 h5
  subst h5
  rcases g with _ | _ | _ | _ | g
  · obtain rfl := h1 (by decide)
    obtain ⟨rfl, rfl⟩ := h2 (by decide)
    obtain rfl := h3 (by decide)
    rfl
  · obtain rfl := h0 (by decide)
    obtain ⟨rfl, rfl⟩ := h2 (by decide)
    obtain rfl := h3 (by decide)
    rfl
  · obtain rfl := h0 (by decide)
    obtain rfl := h1 (by decide)
    obtain rfl := h3 (by decide)
    rfl
  · obtain rfl := h0 (by decide)
    obtain rfl := h1 (by decide)
    obtain ⟨rfl, rfl⟩ := h2 (by decide)
    rfl
  · omega

theorem eq_of_get {m m' : MV} (h : ∀ j < 4, get m' j = get m j) : m' = { m with eq5 := m'.eq5 } := by
  obtain ⟨a1, a2, a3, a4, a5, a6⟩ := m
  obtain ⟨b1, b2, b3, b4, b5, b6⟩ := m'
  have h0 := h 0 (by omega)
  have h1 := h 1 (by omega)
  have h2 := h 2 (by omega)
  have h3 := h 3 (by omega)
  simp only [get, Prod.mk.injEq, and_true] at h0 h1 h2 h3
  obtain ⟨rfl, rfl⟩ := h2
  subst h0 h1 h3
  rfl

theorem get_lt {m : MV} (hm : InRange m) : ∀ g, (get m g).1 < 3 ∧ (get m g).2 < 2
  | 0 => ⟨hm.1, Nat.zero_lt_two⟩
  | 1 => ⟨Nat.lt_succ_of_lt hm.2.1, Nat.zero_lt_two⟩
  | 2 => ⟨hm.2.2.1, hm.2.2.2.2.2⟩
  | _ + 3 => ⟨hm.2.2.2.1, Nat.zero_lt_two⟩

/-- the score of the next-lower macrovector of group `j` (`Spec.V4.lower*`), 0 if none -/
def low (m : MV) : Nat → Nat
  | 0 => tv (m.eq1 + 1) m.eq2 m.eq3 m.eq4 m.eq5 m.eq6
  | 1 => tv m.eq1 (m.eq2 + 1) m.eq3 m.eq4 m.eq5 m.eq6
  | 2 => match m.eq3, m.eq6 with
    | 0, 0 => max (tv m.eq1 m.eq2 0 m.eq4 m.eq5 1) (tv m.eq1 m.eq2 1 m.eq4 m.eq5 0)
    | 0, 1 => tv m.eq1 m.eq2 1 m.eq4 m.eq5 1
    | 1, 0 => tv m.eq1 m.eq2 1 m.eq4 m.eq5 1
    | 1, 1 => tv m.eq1 m.eq2 2 m.eq4 m.eq5 1
    | _, _ => 0
  | 3 => tv m.eq1 m.eq2 m.eq3 (m.eq4 + 1) m.eq5 m.eq6
  | _ => tv m.eq1 m.eq2 m.eq3 m.eq4 (m.eq5 + 1) m.eq6

theorem lower1_eq (m : MV) : Spec.V4.lower1 m = ofTenths (low m 0) := score?_val _
theorem lower2_eq (m : MV) : Spec.V4.lower2 m = ofTenths (low m 1) := score?_val _
theorem lower4_eq (m : MV) : Spec.V4.lower4 m = ofTenths (low m 3) := score?_val _
theorem lower5_eq (m : MV) : Spec.V4.lower5 m = ofTenths (low m 4) := score?_val _
theorem lower36_eq : ∀ m : MV, Spec.V4.lower36 m = ofTenths (low m 2)
  | ⟨e1, e2, 0, e4, e5, 0⟩ => by
    show _ = ofTenths (max (tv e1 e2 0 e4 e5 1) (tv e1 e2 1 e4 e5 0))
    rw [ofTenths_max]
    simp only [Spec.V4.lower36, score?_val]
    rfl
  | ⟨_, _, 0, _, _, 1⟩ => score?_val _
  | ⟨_, _, 1, _, _, 0⟩ => score?_val _
  | ⟨_, _, 1, _, _, 1⟩ => score?_val _
  | ⟨_, _, 0, _, _, _ + 2⟩ => rfl
  | ⟨_, _, 1, _, _, _ + 2⟩ => rfl
  | ⟨_, _, _ + 2, _, _, _⟩ => rfl

/-- for `m` in range: a row exactly when not (EQ3 = 2, EQ6 = 0), and then no next-lower macrovector scores more -/
def tableOK : Bool := allMV fun m =>
  if m.eq3 == 2 && m.eq6 == 0 then val m == 0
  else val m != 0 && (List.range 5).all fun j => Nat.ble (low m j) (val m)

theorem tableOK_true : tableOK = true := by decide +kernel

theorem val_ne_zero_iff (m : MV) : val m ≠ 0 ↔ InRange m ∧ ¬(m.eq3 = 2 ∧ m.eq6 = 0) := by
  constructor
  · intro h
    have hr : InRange m := tv_ne_zero h
    refine ⟨hr, fun h36 => h ?_⟩
    have := allMV_iff.mp tableOK_true m hr
    simpa [h36.1, h36.2] using this
  · rintro ⟨hr, h36⟩
    have := allMV_iff.mp tableOK_true m hr
    have hc : (m.eq3 == 2 && m.eq6 == 0) = false := by simpa using h36
    simp only [hc, Bool.false_eq_true, if_false, Bool.and_eq_true, bne_iff_ne] at this
    exact this.1

theorem low_le {m : MV} (h : val m ≠ 0) {j : Nat} (hj : j < 5) : low m j ≤ val m := by
  obtain ⟨hr, h36⟩ := (val_ne_zero_iff m).mp h
  have := allMV_iff.mp tableOK_true m hr
  have hc : (m.eq3 == 2 && m.eq6 == 0) = false := by simpa using h36
  simp only [hc, Bool.false_eq_true, if_false, Bool.and_eq_true, List.all_eq_true, List.mem_range, Nat.ble_eq] at this
  exact this.2 j hj

theorem score?_isSome_iff (m : MV) :
    (Spec.V4.score? m).isSome = true ↔ InRange m ∧ ¬(m.eq3 = 2 ∧ m.eq6 = 0) := by
  rw [← val_ne_zero_iff, score?_val]
  unfold ofTenths
  split <;> simp [*]

theorem score?_eq_none {m : MV} (h : ¬InRange m) : Spec.V4.score? m = none := by
  cases hs : Spec.V4.score? m with
  | none => rfl
  | some v => exact absurd ((score?_isSome_iff m).1 (by rw [hs]; rfl)).1 h

/-- `score_eq3eq6_next_lower_macro`; must stay syntactically the `if`-chain of `Model.V4.baseScore` (`baseScore_eq`) -/
def lookup36 (e1 e2 e3 e4 e5 e6 : Nat) : Option Rat :=
  if e3 = 1 ∧ e6 = 1 then Model.V4.lookupScore [e1, e2, e3 + 1, e4, e5, e6]
  else if e3 = 0 ∧ e6 = 1 then Model.V4.lookupScore [e1, e2, e3 + 1, e4, e5, e6]
  else if e3 = 1 ∧ e6 = 0 then Model.V4.lookupScore [e1, e2, e3, e4, e5, e6 + 1]
  else if e3 = 0 ∧ e6 = 0 then
    Model.V4.pyMaxNan (Model.V4.lookupScore [e1, e2, e3, e4, e5, e6 + 1])
      (Model.V4.lookupScore [e1, e2, e3 + 1, e4, e5, e6])
  else Model.V4.lookupScore [e1, e2, e3 + 1, e4, e5, e6 + 1]

theorem lookupScore_lowers (e1 e2 e3 e4 e5 e6 : Nat) (hm : InRange ⟨e1, e2, e3, e4, e5, e6⟩) :
    Model.V4.lookupScore [e1 + 1, e2, e3, e4, e5, e6] = Spec.V4.lower1 ⟨e1, e2, e3, e4, e5, e6⟩ ∧
    Model.V4.lookupScore [e1, e2 + 1, e3, e4, e5, e6] = Spec.V4.lower2 ⟨e1, e2, e3, e4, e5, e6⟩ ∧
    lookup36 e1 e2 e3 e4 e5 e6 = Spec.V4.lower36 ⟨e1, e2, e3, e4, e5, e6⟩ ∧
    Model.V4.lookupScore [e1, e2, e3, e4 + 1, e5, e6] = Spec.V4.lower4 ⟨e1, e2, e3, e4, e5, e6⟩ ∧
    Model.V4.lookupScore [e1, e2, e3, e4, e5 + 1, e6] = Spec.V4.lower5 ⟨e1, e2, e3, e4, e5, e6⟩ := by
  obtain ⟨b1, b2, b3, b4, b5, b6⟩ := hm
  simp only at b1 b2 b3 b4 b5 b6
  refine ⟨lookupScore_eq (by omega), lookupScore_eq (by omega), ?_,
    lookupScore_eq (by omega), lookupScore_eq (by omega)⟩
  unfold lookup36
  rw [lookupScore_eq (e3 := e3 + 1) (by omega), lookupScore_eq (e6 := e6 + 1) (by omega)]
  have h3 : e3 = 0 ∨ e3 = 1 ∨ e3 = 2 := by omega
  have h6 : e6 = 0 ∨ e6 = 1 := by omega
  rcases h3 with rfl | rfl | rfl <;> rcases h6 with rfl | rfl
  · -- (0, 0): the row (0, 1) exists, so Python's `max` never sees `nan` first
    simp only [Nat.zero_ne_one, false_and, and_false, if_false, and_self, if_true]
    obtain ⟨l, hl'⟩ := Option.isSome_iff_exists.mp
      ((score?_isSome_iff ⟨e1, e2, 0, e4, e5, 1⟩).2 ⟨⟨b1, b2, Nat.zero_lt_succ 2, b4, b5, Nat.lt_succ_self 1⟩, by simp⟩)
    unfold Spec.V4.lower36
    simp only [Nat.zero_add]
    rw [hl']
    cases Spec.V4.score? ⟨e1, e2, 1, e4, e5, 0⟩ with
    | none => rfl
    | some rr =>
      simp only [Model.V4.pyMaxNan]
      exact congrArg some (Num.pyMax_eq_max l rr)
  · -- (0, 1)
    simp only [zero_ne_one, and_true, ↓reduceIte, and_self, zero_add]
    rfl
  · -- (1, 0)
    simp only [zero_ne_one, and_false, ↓reduceIte, one_ne_zero, and_self, zero_add]
    rfl
  · -- (1, 1)
    simp only [and_self, ↓reduceIte, Nat.reduceAdd]
    rfl
  -- (2, 0), (2, 1): the chain falls through to the look-up of EQ3 = 3, which no row has; `lower36` is `none`
  all_goals
    rw [if_neg (by omega), if_neg (by omega), if_neg (by omega), if_neg (by omega),
      lookupScore_eq (by omega), score?_eq_none (by simp [InRange])]
    rfl

theorem val_of_score? {m : MV} {v : ℚ} (h : Spec.V4.score? m = some v) : val m ≠ 0 ∧ v = (val m : ℚ) / 10 := by
  rw [score?_val] at h
  unfold ofTenths at h
  split at h
  · cases h
  · exact ⟨‹_›, (Option.some.inj h).symm⟩

/-- EQ3 = 2 says that none of VC, VI, VA is High, and EQ6 = 0 needs one of them High -/
theorem eq3_eq6 : ∀ c i v r s t : Bool, (if c && i then 0 else if c || i || v then 1 else 2 : Nat) = 2 →
    (if (r && c) || (s && i) || (t && v) then 0 else 1 : Nat) = 1 := by decide

theorem mv_bounds (a : Str → Str) :
    (Spec.V4.macroVector a).eq1 ≤ 2 ∧ (Spec.V4.macroVector a).eq2 ≤ 1 ∧
    (Spec.V4.macroVector a).eq3 ≤ 2 ∧ (Spec.V4.macroVector a).eq4 ≤ 2 ∧
    (Spec.V4.macroVector a).eq5 ≤ 2 ∧ (Spec.V4.macroVector a).eq6 ≤ 1 ∧
    ((Spec.V4.macroVector a).eq3 = 2 → (Spec.V4.macroVector a).eq6 = 1) := by
  unfold Spec.V4.macroVector
  simp only []
  have d3 {c c' : Prop} [Decidable c] [Decidable c'] : (if c then 0 else if c' then 1 else 2) ≤ 2 :=
    iteInduction (motive := (· ≤ 2)) (fun _ => Nat.zero_le 2) fun _ =>
      iteInduction (motive := (· ≤ 2)) (fun _ => Nat.le_succ 1) fun _ => Nat.le_refl 2
  have d2 {c : Prop} [Decidable c] : (if c then 0 else 1) ≤ 1 :=
    iteInduction (motive := (· ≤ 1)) (fun _ => Nat.zero_le 1) fun _ => Nat.le_refl 1
  exact ⟨d3, d2, d3, d3, d3, d2, eq3_eq6 _ _ _ _ _ _⟩

theorem inRange_mv (a : Str → Str) : InRange (Spec.V4.macroVector a) := by
  obtain ⟨h1, h2, h3, h4, h5, h6, -⟩ := mv_bounds a
  unfold InRange
  omega

theorem lookup_total (a : Str → Str) : (Spec.V4.score? (Spec.V4.macroVector a)).isSome = true := by
  obtain ⟨-, -, -, -, -, -, h36⟩ := mv_bounds a
  exact (score?_isSome_iff _).2 ⟨inRange_mv a, fun h => by have := h36 h.1; omega⟩

theorem gap_nonneg (mv : Spec.V4.MacroVector) (v : Rat) (hv : Spec.V4.score? mv = some v) :
    ∀ l ∈ [Spec.V4.lower1 mv, Spec.V4.lower2 mv, Spec.V4.lower36 mv, Spec.V4.lower4 mv,
      Spec.V4.lower5 mv], ∀ x, l = some x → x ≤ v := by
  obtain ⟨h0, rfl⟩ := val_of_score? hv
  intro l hl x hx
  simp only [List.mem_cons, List.not_mem_nil, or_false] at hl
  rcases hl with rfl | rfl | rfl | rfl | rfl
  · exact ofTenths_le (low_le h0 (by omega)) ((lower1_eq mv).symm.trans hx)
  · exact ofTenths_le (low_le h0 (by omega)) ((lower2_eq mv).symm.trans hx)
  · exact ofTenths_le (low_le h0 (by omega)) ((lower36_eq mv).symm.trans hx)
  · exact ofTenths_le (low_le h0 (by omega)) ((lower4_eq mv).symm.trans hx)
  · exact ofTenths_le (low_le h0 (by omega)) ((lower5_eq mv).symm.trans hx)

theorem gaps_nonneg :
    (Spec.V4.tableTenths.all fun ((e1, e2, e3, e4, e5, e6), _) =>
      let mv : Spec.V4.MacroVector := ⟨e1, e2, e3, e4, e5, e6⟩
      match Spec.V4.score? mv with
      | none => false
      | some v =>
        [Spec.V4.lower1 mv, Spec.V4.lower2 mv, Spec.V4.lower36 mv, Spec.V4.lower4 mv, Spec.V4.lower5 mv].all
          fun l => match l with | none => true | some x => decide (x ≤ v)) = true := by
  rw [List.all_eq_true]
  rintro ⟨⟨e1, e2, e3, e4, e5, e6⟩, t⟩ hmem
  have hl := (lookup_isSome_iff_mem_keys _ _).2 (mem_keys_of_mem hmem)
  rw [lookup_tableTenths] at hl
  have h0 : val ⟨e1, e2, e3, e4, e5, e6⟩ ≠ 0 := fun (h : tv e1 e2 e3 e4 e5 e6 = 0) => by
    rw [if_pos h] at hl
    cases hl
  have hv : Spec.V4.score? ⟨e1, e2, e3, e4, e5, e6⟩ = some ((val ⟨e1, e2, e3, e4, e5, e6⟩ : ℚ) / 10) := by
    rw [score?_val, ofTenths, if_neg h0]
  have hg := gap_nonneg _ _ hv
  simp only [hv, List.all_eq_true]
  intro l hl
  cases hx : l with
  | none => rfl
  | some x => exact decide_eq_true (hg l hl x hx)

/-- highest-severity vectors of class `c` of group `j`; `sdist`: the severity distance; `depth`: MaxSeverity -/
def smax : Nat → Nat × Nat → List (List (Str × Str))
  | 0, c => Spec.V4.max1 c.1
  | 1, c => Spec.V4.max2 c.1
  | 2, c => Spec.V4.max36 c.1 c.2
  | _, c => Spec.V4.max4 c.1

def sdist (a : Str → Str) (g : Nat) : Nat :=
  Spec.V4.distance a (smax g (get (Spec.V4.macroVector a) g))

def depth (m : MV) : Nat → Nat
  | 0 => Spec.V4.depth1 m.eq1
  | 1 => Spec.V4.depth2 m.eq2
  | 2 => Spec.V4.depth36 m.eq3 m.eq6
  | _ => Spec.V4.depth4 m.eq4

theorem depth_dvd (m : MV) (j : Nat) : depth m j ∣ 840 ∧ depth m j ≠ 0 := by
  unfold depth
  split
  · unfold Spec.V4.depth1
    split <;> decide
  · unfold Spec.V4.depth2
    split <;> decide
  · unfold Spec.V4.depth36
    split <;> decide
  · unfold Spec.V4.depth4
    split <;> decide

/-- 1 if there is a next-lower macrovector; `nOf`: how many; `gap`: `val - low`, 0 if there is none -/
def cnt (L : Nat) : Nat := if L = 0 then 0 else 1

def nOf (m : MV) : Nat := cnt (low m 0) + cnt (low m 1) + cnt (low m 2) + cnt (low m 3) + cnt (low m 4)

theorem nOf_le (m : MV) : nOf m ≤ 5 := by
  have h : ∀ L, cnt L ≤ 1 := fun L => by
    unfold cnt
    split <;> omega
  have := h (low m 0)
  have := h (low m 1)
  have := h (low m 2)
  have := h (low m 3)
  have := h (low m 4)
  unfold nOf
  omega

def gap (m : MV) (j : Nat) : Nat := if low m j = 0 then 0 else val m - low m j

/-- 504000 × what one step of distance in group `j` takes off the score -/
def K (m : MV) (j : Nat) : Nat := gap m j * (840 / depth m j) * (60 / nOf m)

-- 50400 = 504000 / 10: `val` is in tenths
def rawN (m : MV) (δ : Nat → Nat) : Int :=
  50400 * (val m : Int) - ((K m 0 * δ 0 + K m 1 * δ 1 + K m 2 * δ 2 + K m 3 * δ 3 : Nat) : Int)

theorem term_tenths {V L d D : ℕ} (h : L ≤ V) :
    Spec.V4.term ((V : ℚ) / 10) (ofTenths L) d D =
      (cnt L, (((if L = 0 then 0 else V - L : ℕ)) : ℚ) / 10 * ((d : ℚ) / (D : ℚ))) := by
  by_cases hL : L = 0
  · simp [ofTenths, cnt, Spec.V4.term, hL]
  · simp only [ofTenths, cnt, Spec.V4.term, if_neg hL, Nat.cast_sub h]
    ring_nf

theorem dvd_sixty : ∀ n ≤ 5, n ≠ 0 → n ∣ 60 := by decide

/-- one class's term of the mean over the common denominator 504000 = 10 · 840 · 60 -/
theorem term_scale (g d D n : ℕ) (hD : D ∣ 840) (hn : n ∣ 60) (zD : D ≠ 0) (zn : n ≠ 0) :
    (g : ℚ) / 10 * ((d : ℚ) / D) / n = ((g * (840 / D) * (60 / n) * d : ℕ) : ℚ) / 504000 := by
  have qD : (D : ℚ) ≠ 0 := by exact_mod_cast zD
  have qn : (n : ℚ) ≠ 0 := by exact_mod_cast zn
  rw [Nat.cast_mul, Nat.cast_mul, Nat.cast_mul, Nat.cast_div hD qD, Nat.cast_div hn qn]
  push_cast
  field_simp
  ring

/-- `60 / 0 = 0` covers the case of no lower neighbour -/
theorem interp (V n g0 g1 g2 g3 d0 d1 d2 d3 D0 D1 D2 D3 : ℕ) (x5 : ℚ) (hn : n ≤ 5)
    (h0 : D0 ∣ 840 ∧ D0 ≠ 0) (h1 : D1 ∣ 840 ∧ D1 ≠ 0) (h2 : D2 ∣ 840 ∧ D2 ≠ 0) (h3 : D3 ∣ 840 ∧ D3 ≠ 0) :
    (V : ℚ) / 10 - (if n = 0 then 0 else
      ((g0 : ℚ) / 10 * ((d0 : ℚ) / D0) + (g1 : ℚ) / 10 * ((d1 : ℚ) / D1) + (g2 : ℚ) / 10 * ((d2 : ℚ) / D2) +
        (g3 : ℚ) / 10 * ((d3 : ℚ) / D3) + x5 * (((0 : ℕ) : ℚ) / ((1 : ℕ) : ℚ))) / (n : ℚ)) =
    ((50400 * (V : ℤ) - ((g0 * (840 / D0) * (60 / n) * d0 + g1 * (840 / D1) * (60 / n) * d1 +
      g2 * (840 / D2) * (60 / n) * d2 + g3 * (840 / D3) * (60 / n) * d3 : ℕ) : ℤ) : ℤ) : ℚ) / 504000 := by
  by_cases hn0 : n = 0
  · subst hn0
    simp only [if_true, Nat.div_zero, Nat.mul_zero, Nat.zero_mul, Nat.add_zero]
    push_cast
    ring
  · have hdvd := dvd_sixty n hn hn0
    rw [if_neg hn0, add_div, add_div, add_div, add_div, term_scale g0 d0 D0 n h0.1 hdvd h0.2 hn0,
      term_scale g1 d1 D1 n h1.1 hdvd h1.2 hn0, term_scale g2 d2 D2 n h2.1 hdvd h2.2 hn0,
      term_scale g3 d3 D3 n h3.1 hdvd h3.2 hn0]
    generalize 840 / D0 = Q0, 840 / D1 = Q1, 840 / D2 = Q2, 840 / D3 = Q3, 60 / n = q
    push_cast
    ring

theorem rawScore_rawN (a : Str → Str) :
    Spec.V4.rawScore a = some (((rawN (Spec.V4.macroVector a) (sdist a) : ℤ) : ℚ) / 504000) := by
  have hv : val (Spec.V4.macroVector a) ≠ 0 :=
    (val_ne_zero_iff _).mpr ((score?_isSome_iff _).mp (lookup_total a))
  unfold Spec.V4.rawScore rawN sdist
  generalize Spec.V4.macroVector a = m at *
  have hval : Spec.V4.score? m = some ((val m : ℚ) / 10) := by rw [score?_val, ofTenths, if_neg hv]
  simp only [hval, lower1_eq, lower2_eq, lower36_eq, lower4_eq, lower5_eq,
    term_tenths (low_le hv (show 0 < 5 by omega)), term_tenths (low_le hv (show 1 < 5 by omega)),
    term_tenths (low_le hv (show 2 < 5 by omega)), term_tenths (low_le hv (show 3 < 5 by omega)),
    term_tenths (low_le hv (show 4 < 5 by omega))]
  congr 1
  exact interp _ _ _ _ _ _ _ _ _ _ _ _ _ _ _ (nOf_le m) (depth_dvd m 0) (depth_dvd m 1) (depth_dvd m 2) (depth_dvd m 3)

/-- ten times the value plus one half is a fraction over `1680 · n ≤ 8400` (`60 / n` divides every weight), also
    after clamping; `roundHalfUp_eps` asks for 10⁵ -/
theorem rawN_den (m : MV) (δ : Nat → Nat) :
    (max 0 (min 10 (((rawN m δ : ℤ) : ℚ) / 504000)) * 10 + 1 / 2).den < 100000 := by
  refine lt_of_le_of_lt (den_clamp _ 8400 (by norm_num) ?_) (by norm_num)
  unfold rawN K
  have hn5 := nOf_le m
  generalize nOf m = n at hn5 ⊢
  generalize gap m 0 * (840 / depth m 0) = G0, gap m 1 * (840 / depth m 1) = G1,
    gap m 2 * (840 / depth m 2) = G2, gap m 3 * (840 / depth m 3) = G3, val m = V
  by_cases hn : n = 0
  · subst hn
    have := den_le_of_mul_int (((50400 * (V : ℤ) - ((G0 * (60 / 0) * δ 0 + G1 * (60 / 0) * δ 1 +
      G2 * (60 / 0) * δ 2 + G3 * (60 / 0) * δ 3 : ℕ) : ℤ) : ℤ) : ℚ) / 504000 * 10 + 1 / 2) 2 (by norm_num)
      (2 * V + 1) (by
        simp only [Nat.div_zero, Nat.mul_zero, Nat.zero_mul, Nat.add_zero]
        push_cast
        ring)
    omega
  · have hdvd := dvd_sixty n hn5 hn
    have hnq : (n : ℚ) ≠ 0 := by exact_mod_cast hn
    have hq : ((60 / n : ℕ) : ℚ) = 60 / n := Nat.cast_div hdvd hnq
    generalize 60 / n = q at hq ⊢
    have hS : G0 * q * δ 0 + G1 * q * δ 1 + G2 * q * δ 2 + G3 * q * δ 3 =
        q * (G0 * δ 0 + G1 * δ 1 + G2 * δ 2 + G3 * δ 3) := by ring
    rw [hS]
    generalize G0 * δ 0 + G1 * δ 1 + G2 * δ 2 + G3 * δ 3 = S
    have := den_le_of_mul_int (((50400 * (V : ℤ) - ((q * S : ℕ) : ℤ) : ℤ) : ℚ) / 504000 * 10 + 1 / 2)
      (1680 * n) (by omega) (1680 * n * V - 2 * S + 840 * n) (by
        push_cast
        rw [hq]
        field_simp
        ring)
    omega

end Cvss.Lemmas.V4Table
