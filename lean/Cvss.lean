import Cvss.Basic
import Cvss.Gen.Exc
import Cvss.Gen.Unicode
import Cvss.Gen.V2
import Cvss.Gen.V3
import Cvss.Gen.V4
import Cvss.Lemmas.Any
import Cvss.Lemmas.Construct
import Cvss.Lemmas.Extract
import Cvss.Lemmas.Frame
import Cvss.Lemmas.Interactive
import Cvss.Lemmas.Invariance
import Cvss.Lemmas.Json
import Cvss.Lemmas.Messages
import Cvss.Lemmas.Mono
import Cvss.Lemmas.Num
import Cvss.Lemmas.Num3
import Cvss.Lemmas.Num4
import Cvss.Lemmas.Parse
import Cvss.Lemmas.PyM
import Cvss.Lemmas.Regex
import Cvss.Lemmas.RegexV4
import Cvss.Lemmas.Rh
import Cvss.Lemmas.Robust
import Cvss.Lemmas.SchemaValid
import Cvss.Lemmas.Spec2
import Cvss.Lemmas.Spec3
import Cvss.Lemmas.Str
import Cvss.Lemmas.V3
import Cvss.Lemmas.V4
import Cvss.Lemmas.V4Levels
import Cvss.Lemmas.V4Mono
import Cvss.Lemmas.V4Search
import Cvss.Lemmas.V4Table
import Cvss.Lemmas.Values3
import Cvss.Model.Any
import Cvss.Model.Cli
import Cvss.Model.CliMsg
import Cvss.Model.Extract
import Cvss.Model.Float
import Cvss.Model.Interactive
import Cvss.Model.Json
import Cvss.Model.Messages
import Cvss.Model.Parse
import Cvss.Model.Prompts
import Cvss.Model.V2
import Cvss.Model.V3
import Cvss.Model.V4
import Cvss.Props.C01
import Cvss.Props.C02
import Cvss.Props.C02Pins
import Cvss.Props.C03
import Cvss.Props.C04
import Cvss.Props.C04Final
import Cvss.Props.C05
import Cvss.Props.C06
import Cvss.Props.C07
import Cvss.Props.C08
import Cvss.Props.C08Final
import Cvss.Props.C09
import Cvss.Props.C10
import Cvss.Props.C11
import Cvss.Props.C12
import Cvss.Props.C13
import Cvss.Props.C13Final
import Cvss.Props.C14
import Cvss.Props.C14Defs
import Cvss.Props.C14V4
import Cvss.Props.C14V4Tables
import Cvss.Props.C15
import Cvss.Props.C16
import Cvss.Props.C17
import Cvss.Props.C17Final
import Cvss.Props.C17Messages
import Cvss.Props.C18
import Cvss.Props.C19
import Cvss.Props.C20
import Cvss.Spec.All
import Cvss.Spec.Grammar
import Cvss.Spec.GrammarTables
import Cvss.Spec.Regex
import Cvss.Spec.RegexPatterns
import Cvss.Spec.Schema
import Cvss.Spec.SchemaTerms
import Cvss.Spec.Scores
import Cvss.Spec.Severity
import Cvss.Spec.V2
import Cvss.Spec.V3
import Cvss.Spec.V4
import Cvss.Spec.V4Table
